/- the variables map as a finite map: `vmFind` after `vmInsert`, and the invariant `VMSorted`; successful folds in `Except` -/
import InovesaModel.Model.Options
namespace Inovesa
open Gen

/-! ### successful monadic folds in `Except` -/

section fold
variable {ε σ α : Type} {f : σ → α → Except ε σ}

theorem foldlM_ok_cons {a : α} {l : List α} {s r : σ} :
    (a :: l).foldlM f s = .ok r ↔ ∃ s', f s a = .ok s' ∧ l.foldlM f s' = .ok r := by
  rw [List.foldlM_cons]
  cases f s a with
  | error e => exact ⟨fun h => (nomatch h), fun ⟨_, h, _⟩ => (nomatch h)⟩
  | ok s' => exact ⟨fun h => ⟨s', rfl, h⟩, fun ⟨_, h, h'⟩ => by cases h; exact h'⟩

/-- a property kept by every successful step is kept by a successful fold -/
theorem foldlM_ok_invariant (P : σ → Prop) : ∀ {l : List α} {s r : σ},
    l.foldlM f s = .ok r → (∀ s a s', f s a = .ok s' → P s → P s') → P s → P r
  | [], _, _, h, _, hs => by cases h; exact hs
  | _ :: _, _, _, h, hstep, hs => by
    obtain ⟨s', h1, h2⟩ := foldlM_ok_cons.1 h
    exact foldlM_ok_invariant P h2 hstep (hstep _ _ _ h1 hs)

/-- in a successful fold the step succeeded on every element -/
theorem foldlM_ok_mem : ∀ {l : List α} {s r : σ} {a : α},
    l.foldlM f s = .ok r → a ∈ l → ∃ s₁ s₂, f s₁ a = .ok s₂
  | _ :: _, s, _, _, h, ha => by
    obtain ⟨s', h1, h2⟩ := foldlM_ok_cons.1 h
    rcases List.mem_cons.1 ha with rfl | ha
    · exact ⟨s, s', h1⟩
    · exact foldlM_ok_mem h2 ha

end fold

/-! ### finite-map lemmas for `VM` -/

theorem vmFind_nil (k : String) : vmFind [] k = none := rfl

theorem vmFind_cons (kv : String × VMEntry) (r : VM) (k : String) :
    vmFind (kv :: r) k = if kv.1 = k then some kv.2 else vmFind r k := by
  unfold vmFind
  by_cases h : kv.1 = k <;> simp [h]

theorem vmFind_insert (vm : VM) (k k' : String) (e : VMEntry) :
    vmFind (vmInsert vm k e) k' = if k' = k then some e else vmFind vm k' := by
  induction vm with
  | nil =>
    simp only [vmInsert, vmFind_cons, vmFind_nil]
    by_cases h : k = k' <;> simp [h, eq_comm]
  | cons hd r ih =>
    obtain ⟨k0, e0⟩ := hd
    simp only [vmInsert]
    by_cases h1 : k = k0
    · subst h1
      simp only [if_true, vmFind_cons]
      by_cases h : k = k' <;> simp [h, eq_comm]
    · simp only [h1, if_false]
      by_cases h2 : k < k0
      · simp only [h2, if_true, vmFind_cons]
        by_cases h : k = k' <;> simp [h, eq_comm]
      · simp only [h2, if_false, vmFind_cons, ih]
        by_cases h : k0 = k'
        · subst h; simp [Ne.symm h1]
        · simp [h]

/-! ### sortedness of the variables map -/

def VMSorted (vm : VM) : Prop := (vm.map (·.1)).Pairwise (· < ·)

theorem string_lt_of_not_lt_of_ne {a b : String} (h1 : ¬ a = b) (h2 : ¬ a < b) : b < a := by
  have h3 : b ≤ a := String.not_lt.1 h2
  rcases Decidable.em (b < a) with h | h
  · exact h
  · exact absurd (String.le_antisymm (String.not_lt.1 h) h3) h1

theorem vmInsert_keys (vm : VM) (k : String) (e : VMEntry) :
    ∀ x ∈ (vmInsert vm k e).map (·.1), x = k ∨ x ∈ vm.map (·.1) := by
  induction vm with
  | nil => intro x hx; simp [vmInsert] at hx; exact .inl hx
  | cons hd r ih =>
    obtain ⟨k0, e0⟩ := hd
    intro x hx
    simp only [vmInsert] at hx
    split at hx
    · simp at hx ⊢; rcases hx with h | h
      · exact .inl h
      · exact .inr (.inr h)
    · split at hx
      · simp at hx ⊢; exact hx
      · simp only [List.map_cons, List.mem_cons] at hx ⊢
        rcases hx with h | h
        · exact .inr (.inl h)
        · rcases ih x h with h | h
          · exact .inl h
          · exact .inr (.inr h)

theorem vmInsert_sorted (vm : VM) (k : String) (e : VMEntry) (h : VMSorted vm) :
    VMSorted (vmInsert vm k e) := by
  unfold VMSorted at *
  induction vm with
  | nil => simp [vmInsert]
  | cons hd r ih =>
    obtain ⟨k0, e0⟩ := hd
    simp only [List.map_cons, List.pairwise_cons] at h
    simp only [vmInsert]
    split
    · subst_vars; simpa using h
    · rename_i hne
      split
      · rename_i hlt
        simp only [List.map_cons, List.pairwise_cons, List.mem_cons]
        refine ⟨?_, h⟩
        rintro x (rfl | hx)
        · exact hlt
        · exact String.lt_trans hlt (h.1 x hx)
      · rename_i hnlt
        have hlt : k0 < k := string_lt_of_not_lt_of_ne hne hnlt
        simp only [List.map_cons, List.pairwise_cons]
        refine ⟨?_, ih h.2⟩
        intro x hx
        rcases vmInsert_keys r k e x hx with rfl | hx
        · exact hlt
        · exact h.1 x hx

theorem VMSorted.nodup {vm : VM} (h : VMSorted vm) : (vm.map (·.1)).Nodup :=
  List.Pairwise.imp (fun hab => String.ne_of_lt hab) h

theorem vmSorted_nil : VMSorted [] := List.Pairwise.nil

/-! ### lists with distinct keys -/

theorem filter_key_of_nodup {α : Type} : ∀ (p : List (String × α)) (k : String),
    (p.map (·.1)).Nodup →
    p.filter (·.1 = k) = match p.find? (·.1 = k) with
      | some kv => [kv]
      | none => [] := by
  intro p k
  induction p with
  | nil => intro _; rfl
  | cons kv t ih =>
    intro hn
    simp only [List.map_cons, List.nodup_cons] at hn
    by_cases hk : kv.1 = k
    · have : t.filter (·.1 = k) = [] := by
        rw [List.filter_eq_nil_iff]
        intro x hx hx'
        simp only [decide_eq_true_eq] at hx'
        apply hn.1
        rw [hk, ← hx']
        exact List.mem_map_of_mem hx
      simp [hk, this]
    · simp only [List.filter_cons, List.find?_cons, hk, decide_false]
      exact ih hn.2

end Inovesa
