/- `save(std::string)` and reading back what it wrote -/
import InovesaModel.Lemmas.Opt.Parse
import InovesaModel.Lemmas.Opt.Eval
namespace Inovesa
open Gen Props.C20

/-! ### `save` -/

/-- the lines `save` writes for one entry of the variables map -/
def saveEntry (decls : List OptSpec) (skip : List String) (specials : List (String × String × String))
    (types : List OptTy) (fsZero : Bool) (kv : String × VMEntry) : List (String × String) :=
    let k := kv.1
    if skip.contains k then []
    else
      match specials.find? (fun s => s.1 = k ∧ ((s.2.1 = "f_s==0" ∧ fsZero) ∨ (s.2.1 = "f_s!=0" ∧ !fsZero))) with
      | some s => [(k, ((s.2.2.splitOn "=").getD 1 ""))]
      | none =>
        match decls.find? (·.name = k) with
        | none => []
        | some o =>
          if o.ty = .flag then []
          else if types.contains o.ty then
            (if o.ty = .vecf32 then kv.2.toks.map (fun t => (k, stripKind t))
             else [(k, stripKind (kv.2.toks.headD ""))])
          else []

theorem saveLines_eq (decls : List OptSpec) (skip : List String)
    (specials : List (String × String × String)) (types : List OptTy) (vm : VM) (fsZero : Bool) :
    saveLines decls skip specials types vm fsZero =
      vm.flatMap (saveEntry decls skip specials types fsZero) := rfl

/-- every line written for an entry carries the entry's key, which is a special key or a declared name -/
theorem saveEntry_key {decls : List OptSpec} {skip : List String}
    {specials : List (String × String × String)} {types : List OptTy} {fsZero : Bool}
    {kv : String × VMEntry} {x : String × String}
    (hx : x ∈ saveEntry decls skip specials types fsZero kv) :
    x.1 = kv.1 ∧ ((∃ s ∈ specials, s.1 = kv.1) ∨ (∃ o ∈ decls, o.name = kv.1)) := by
  unfold saveEntry at hx
  simp only at hx
  split at hx
  · cases hx
  · split at hx
    · rename_i s hs
      have := List.find?_some hs
      simp only [decide_eq_true_eq] at this
      rw [List.mem_singleton] at hx
      exact ⟨by rw [hx], .inl ⟨s, List.mem_of_find?_eq_some hs, this.1⟩⟩
    · split at hx
      · cases hx
      · rename_i o ho
        refine ⟨?_, .inr ⟨o, List.mem_of_find?_eq_some ho, by simpa using List.find?_some ho⟩⟩
        split at hx
        · cases hx
        · split at hx
          · split at hx
            · obtain ⟨t, -, rfl⟩ := List.mem_map.1 hx; rfl
            · rw [List.mem_singleton.1 hx]
          · cases hx

/-- filtering a `flatMap` by a key that every produced element inherits from its source -/
theorem filter_flatMap_key {α β : Type} (f : α → List β) (ka : α → String) (kb : β → String)
    (hf : ∀ a, ∀ b ∈ f a, kb b = ka a) (k : String) (l : List α) :
    (l.flatMap f).filter (kb · = k) = (l.filter (ka · = k)).flatMap f := by
  induction l with
  | nil => rfl
  | cons a t ih =>
    rw [List.flatMap_cons, List.filter_append, ih, List.filter_cons]
    by_cases h : ka a = k
    · rw [if_pos (by simpa using h), List.flatMap_cons, List.filter_eq_self.2]
      intro b hb; simpa [hf a b hb] using h
    · rw [if_neg (by simpa using h), List.filter_eq_nil_iff.2, List.nil_append]
      intro b hb; simpa [hf a b hb] using h

section
variable (decls : List OptSpec) (skip : List String) (specials : List (String × String × String))
  (types : List OptTy) (fsZero : Bool) (k : String)

theorem saveLines_filter (vm : VM) :
    (saveLines decls skip specials types vm fsZero).filter (·.1 = k) =
      (vm.filter (·.1 = k)).flatMap (saveEntry decls skip specials types fsZero) :=
  filter_flatMap_key _ (fun kv : String × VMEntry => kv.1) (fun x : String × String => x.1)
    (fun _ _ hx => (saveEntry_key hx).1) k vm

theorem saveLines_filter_absent {vm : VM} (h : vmFind vm k = none) :
    (saveLines decls skip specials types vm fsZero).filter (·.1 = k) = [] := by
  rw [saveLines_filter, List.filter_eq_nil_iff.2, List.flatMap_nil]
  simpa [vmFind] using h

theorem saveLines_filter_present {vm : VM} {e : VMEntry} (hs : VMSorted vm) (h : vmFind vm k = some e) :
    (saveLines decls skip specials types vm fsZero).filter (·.1 = k) =
      saveEntry decls skip specials types fsZero (k, e) := by
  obtain ⟨⟨k', e'⟩, hf, rfl⟩ : ∃ kv, vm.find? (·.1 = k) = some kv ∧ kv.2 = e := by
    simpa [vmFind] using h
  obtain rfl : k' = k := by simpa using List.find?_some hf
  rw [saveLines_filter, filter_key_of_nodup vm k' hs.nodup, hf]
  simp

end

theorem saveSpecials_none (fsZero : Bool) (k : String) (halpha : k ≠ "alpha0" ∨ fsZero = true) :
    saveSpecials.find? (fun s => s.1 = k ∧ ((s.2.1 = "f_s==0" ∧ fsZero) ∨ (s.2.1 = "f_s!=0" ∧ !fsZero)))
      = none := by
  rw [List.find?_eq_none]
  intro s hs
  have hs' : s = ("alpha0", "f_s!=0", "alpha0=0") := by simpa [saveSpecials] using hs
  subst hs'
  have h1 : ¬ ("f_s!=0" = "f_s==0") := by decide +kernel
  rcases halpha with h | h
  · simp [Ne.symm h]
  · simp [h, h1]

theorem saveEntry_scalar (fsZero : Bool) (k : String) (o : OptSpec) (e : VMEntry)
    (ho : optionDecls.find? (·.name = k) = some o) (hty : o.ty ∈ saveTypes) (hflag : o.ty ≠ .flag)
    (hvec : o.ty ≠ .vecf32) (hskip : k ∉ saveSkip) (halpha : k ≠ "alpha0" ∨ fsZero = true) :
    saveEntry optionDecls saveSkip saveSpecials saveTypes fsZero (k, e)
      = [(k, stripKind (e.toks.headD ""))] := by
  unfold saveEntry
  simp only
  rw [if_neg (by simpa using hskip), saveSpecials_none fsZero k halpha]
  simp only [ho]
  rw [if_neg hflag, if_pos (by simpa using hty), if_neg hvec]

theorem saveEntry_vector (fsZero : Bool) (k : String) (o : OptSpec) (e : VMEntry)
    (ho : optionDecls.find? (·.name = k) = some o) (hvec : o.ty = .vecf32) (hskip : k ∉ saveSkip) :
    saveEntry optionDecls saveSkip saveSpecials saveTypes fsZero (k, e)
      = e.toks.map (fun t => (k, stripKind t)) := by
  have hk : k ≠ "alpha0" := by
    intro hk
    subst hk
    have : (optionDecls.find? (·.name = "alpha0")).map (·.ty) = some .f32 := by decide +kernel
    rw [ho] at this
    simp only [Option.map_some, Option.some.injEq] at this
    rw [hvec] at this; cases this
  unfold saveEntry
  simp only
  rw [if_neg (by simpa using hskip), saveSpecials_none fsZero k (.inl hk)]
  simp only [ho]
  rw [if_neg (by rw [hvec]; decide), if_pos (by rw [hvec]; decide), if_pos hvec]
/-! ### reading back what `save` wrote -/

/-- the (key, value) pair `parseCfg` reads off a line -/
def cfgPair (l : String) : Option (String × List String) :=
  match l.splitOn "=" with
  | k :: v :: vs => some (k, ["=".intercalate (v :: vs)])
  | _ => none

def cfgStep (desc : List OptSpec) (acc : Parsed) (l : String) : Except PErr Parsed :=
  match l.splitOn "=" with
  | k :: v :: vs =>
    match findOpt desc k with
    | some _ => .ok (acc ++ [(k, ["=".intercalate (v :: vs)])])
    | none => .error (.unknownOption k)
  | _ => .error (.unknownOption l)

theorem parseCfg_eq_fold (desc : List OptSpec) (lines : List String) :
    parseCfg desc lines = lines.foldlM (cfgStep desc) [] := rfl

theorem cfgStep_ok {desc : List OptSpec} {acc acc' : Parsed} {l : String}
    (h : cfgStep desc acc l = .ok acc') : ∃ kv, cfgPair l = some kv ∧ acc' = acc ++ [kv] := by
  unfold cfgStep at h
  unfold cfgPair
  split at h
  · rename_i k v vs heq
    split at h
    · simp only [Except.ok.injEq] at h
      exact ⟨_, rfl, h.symm⟩
    · cases h
  · cases h

theorem parseCfg_fold_pairs (desc : List OptSpec) {lines : List String} {acc pf : Parsed}
    (h : lines.foldlM (cfgStep desc) acc = .ok pf) :
    ∃ ps, lines.map cfgPair = ps.map some ∧ pf = acc ++ ps := by
  induction lines generalizing acc with
  | nil => cases h; exact ⟨[], rfl, by simp⟩
  | cons l t ih =>
    obtain ⟨acc', hs, h⟩ := foldlM_ok_cons.1 h
    obtain ⟨kv, hkv, rfl⟩ := cfgStep_ok hs
    obtain ⟨ps, hps, rfl⟩ := ih h
    exact ⟨kv :: ps, by simp [hkv, hps], by simp⟩

theorem parseCfg_pairs {desc : List OptSpec} {lines : List String} {pf : Parsed}
    (h : parseCfg desc lines = .ok pf) : lines.map cfgPair = pf.map some := by
  rw [parseCfg_eq_fold] at h
  obtain ⟨ps, hps, rfl⟩ := parseCfg_fold_pairs desc h
  simpa using hps

/-- value read back from `a=b` -/
def cfgVal (b : String) : String :=
  "=".intercalate ((List.splitOnP (· == '=') b.toList).map String.ofList)

theorem cfgPair_line (a b : String) (ha : '=' ∉ a.toList) :
    cfgPair (a ++ "=" ++ b) = some (a, [cfgVal b]) := by
  unfold cfgPair cfgVal
  rw [splitOn_eq]
  have h1 : (a ++ "=" ++ b).toList = a.toList ++ '=' :: b.toList := by
    rw [String.toList_append, String.toList_append]
    have : "=".toList = ['='] := by decide +kernel
    rw [this]; simp
  rw [h1, List.splitOnP_append_cons_of_forall_mem (by
    intro x hx
    have : x ≠ '=' := fun h => ha (h ▸ hx)
    simpa using this) '=' (by simp)]
  obtain ⟨v, vs, hv⟩ := List.exists_cons_of_ne_nil
    (List.splitOnP_ne_nil (· == '=') b.toList)
  rw [hv]
  simp only [List.map_cons, String.ofList_toList]

theorem cfgVal_of_noeq (b : String) (hb : '=' ∉ b.toList) : cfgVal b = b := by
  unfold cfgVal
  rw [List.splitOnP_eq_singleton (by
    intro x hx
    have : x ≠ '=' := fun h => hb (h ▸ hx)
    simpa using this)]
  simp [String.intercalate_singleton]

theorem names_noeq : (∀ s ∈ saveSpecials, '=' ∉ s.1.toList) ∧ (∀ o ∈ optionDecls, '=' ∉ o.name.toList) := by
  decide +kernel

theorem saveLines_key_noeq (vm : VM) (fsZero : Bool) :
    ∀ x ∈ saveLines optionDecls saveSkip saveSpecials saveTypes vm fsZero, '=' ∉ x.1.toList := by
  intro x hx
  rw [saveLines_eq, List.mem_flatMap] at hx
  obtain ⟨kv, -, hx⟩ := hx
  rw [(saveEntry_key hx).1]
  rcases (saveEntry_key hx).2 with ⟨s, hs, h⟩ | ⟨o, ho, h⟩
  · rw [← h]; exact names_noeq.1 s hs
  · rw [← h]; exact names_noeq.2 o ho

namespace Props.C13

/-- the config-file lines `save` writes for a variables map -/
def savedLines (vm : VM) (fsZero : Bool) : List String :=
  ((saveLines optionDecls saveSkip saveSpecials saveTypes vm fsZero).filter
      (fun kv => !(saveCommentsConfig && kv.1 == "config"))).map (fun kv => kv.1 ++ "=" ++ kv.2)

end Props.C13
open Props.C13

theorem parseCfg_saved {desc : List OptSpec} {vm : VM} {fsZero : Bool} {pf : Parsed}
    (h : parseCfg desc (savedLines vm fsZero) = .ok pf) :
    pf = ((saveLines optionDecls saveSkip saveSpecials saveTypes vm fsZero).filter
      (fun kv => !(saveCommentsConfig && kv.1 == "config"))).map (fun x => (x.1, [cfgVal x.2])) := by
  have hp := parseCfg_pairs h
  unfold savedLines at hp
  rw [List.map_map] at hp
  have : ∀ x ∈ (saveLines optionDecls saveSkip saveSpecials saveTypes vm fsZero).filter
      (fun kv => !(saveCommentsConfig && kv.1 == "config")),
      (cfgPair ∘ fun kv => kv.1 ++ "=" ++ kv.2) x = (some ∘ fun x => (x.1, [cfgVal x.2])) x := by
    intro x hx
    exact cfgPair_line x.1 x.2 (saveLines_key_noeq vm fsZero x (List.mem_filter.1 hx).1)
  rw [List.map_congr_left this, ← List.map_map] at hp
  exact ((List.map_inj_right fun _ _ => Option.some.inj).1 hp).symm

theorem parseCfg_saved_filter {desc : List OptSpec} {vm : VM} {fsZero : Bool} {pf : Parsed}
    {k V : String} (h : parseCfg desc (savedLines vm fsZero) = .ok pf)
    (hS : (saveLines optionDecls saveSkip saveSpecials saveTypes vm fsZero).filter (·.1 = k) = [(k, V)])
    (hk : k ≠ "config") (hV : '=' ∉ V.toList) : pf.filter (·.1 = k) = [(k, [V])] := by
  rw [parseCfg_saved h, List.filter_map, List.filter_filter]
  have : (saveLines optionDecls saveSkip saveSpecials saveTypes vm fsZero).filter
      (fun a => ((fun x : String × List String => decide (x.1 = k)) ∘ fun x : String × String => (x.1, [cfgVal x.2])) a
        && !(saveCommentsConfig && a.1 == "config")) =
      ((saveLines optionDecls saveSkip saveSpecials saveTypes vm fsZero).filter (·.1 = k)).filter
        (fun a => !(saveCommentsConfig && a.1 == "config")) := by
    rw [List.filter_filter]
    congr 1; funext a; simp [Bool.and_comm]
  rw [this, hS]
  simp [hk, cfgVal_of_noeq V hV]

theorem takeWhile_ne_append_cons {c : Char} {l r : List Char} (h : c ∉ l) :
    (l ++ c :: r).takeWhile (· != c) = l := by
  rw [List.takeWhile_append_of_pos fun x hx => by
    have : x ≠ c := fun hc => h (hc ▸ hx)
    simpa using this]
  simp

theorem startsWith_key {a b k : String} (ha : '=' ∉ a.toList) (hk : '=' ∉ k.toList) :
    (a ++ "=" ++ b).startsWith (k ++ "=") = decide (a = k) := by
  have he : "=".toList = ['='] := by decide +kernel
  rw [Bool.eq_iff_iff, String.startsWith_string_iff, decide_eq_true_iff]
  simp only [String.toList_append, he, List.append_assoc, List.singleton_append]
  constructor
  · rintro ⟨t, ht⟩
    have := congrArg (List.takeWhile (· != '=')) ht
    rw [List.append_assoc, List.cons_append, takeWhile_ne_append_cons hk,
      takeWhile_ne_append_cons ha] at this
    exact (String.toList_inj.1 this).symm
  · rintro rfl; exact ⟨b.toList, by simp⟩

/-- the lines of the saved file that begin with `k=` are those written for key `k` -/
theorem savedLines_filter_key (vm : VM) (fsZero : Bool) {k : String} (hk : '=' ∉ k.toList)
    (hkc : k ≠ "config") :
    (savedLines vm fsZero).filter (·.startsWith (k ++ "=")) =
      ((saveLines optionDecls saveSkip saveSpecials saveTypes vm fsZero).filter (·.1 = k)).map
        (fun kv => kv.1 ++ "=" ++ kv.2) := by
  unfold savedLines
  rw [List.filter_map, List.filter_filter]
  congr 1
  apply List.filter_congr
  intro x hx
  simp only [Function.comp, startsWith_key (saveLines_key_noeq vm fsZero x hx) hk]
  by_cases h : x.1 = k <;> simp [h, hkc]

theorem roundtrip' (vm vm2 : VM) (vars2 : Vars) (fsZero : Bool) (hsorted : VMSorted vm)
    (hre : parseOptions optionDecls cliGroups cfgGroups optionAliases ["--config", "@SAVED@"]
            (fun p => if p = "@SAVED@" then some (savedLines vm fsZero) else none) = .run vm2 vars2)
    (k : String) (o : OptSpec) (e : VMEntry)
    (ho : (described optionDecls cfgGroups).find? (·.name = k) = some o)
    (hty : o.ty ∈ saveTypes) (hflag : o.ty ≠ .flag) (hvec : o.ty ≠ .vecf32)
    (hskip : k ∉ saveSkip) (halias : ∀ ab ∈ optionAliases, ab.1 ≠ k ∧ ab.2 ≠ k)
    (halpha : k ≠ "alpha0" ∨ fsZero = true)
    (hnoeq : ¬ (stripKind (e.toks.headD "")).contains '=')
    (he : vmFind vm k = some e) :
    vmFind vm2 k = some ⟨[stripKind (e.toks.headD "")], false⟩ := by
  obtain ⟨vm1, final1, hs1, hrest⟩ := parseOptions_run_inv parseCLI_saved hre
  have hc := cfgNameOf_cliStore (c := "@SAVED@") tableOK hs1 (by decide) rfl
  obtain ⟨pf, vm2', f2, hcfg, hs2, rfl⟩ := parseRest_cfg_inv hc (by decide) (by decide)
    (if_pos rfl) hrest
  -- `k` is a config-file option, hence not `config`
  have hkc : k ≠ "config" := by
    intro hk; subst hk
    have : (described optionDecls cfgGroups).find? (·.name = "config") = none := by decide +kernel
    rw [this] at ho; cases ho
  -- the entry of the full table for `k` has the same type
  have homem : o ∈ optionDecls := by
    have := List.mem_of_find?_eq_some ho
    unfold described at this
    rw [List.mem_flatMap] at this
    obtain ⟨g, -, hg⟩ := this
    exact (List.mem_filter.1 hg).1
  have hon : o.name = k := by simpa using List.find?_some ho
  obtain ⟨o', ho'⟩ : ∃ o', optionDecls.find? (·.name = k) = some o' := by
    cases h : optionDecls.find? (·.name = k) with
    | some o' => exact ⟨o', rfl⟩
    | none =>
      rw [List.find?_eq_none] at h
      exact absurd (by simpa using hon) (h o homem)
  have ho'n : o'.name = k := by simpa using List.find?_some ho'
  have hty' : o'.ty = o.ty :=
    (tableOK.name_var (List.mem_of_find?_eq_some ho') homem (ho'n.trans hon.symm)).2
  have hS := saveLines_filter_present optionDecls saveSkip saveSpecials saveTypes fsZero k hsorted he
  rw [saveEntry_scalar fsZero k o' e ho' (hty' ▸ hty) (hty' ▸ hflag) (hty' ▸ hvec) hskip halpha] at hS
  have hV : '=' ∉ (stripKind (e.toks.headD "")).toList := by
    rw [String.contains_char_eq] at hnoeq
    simpa using hnoeq
  have hpf := parseCfg_saved_filter hcfg hS hkc hV
  -- `k` was not given on the command line
  have hfin : final1.contains k = false := by
    rw [(storeParsed_find hs1 k).1]
    simp [Ne.symm hkc]
  have h2 := (storeParsed_find hs2 k).2.2 hfin _ hpf
  rw [vmFind_aliasFold k optionAliases vm2' tableOK.aliasDisjoint tableOK.aliasNodup]
  have : optionAliases.find? (·.2 = k) = none := by
    rw [List.find?_eq_none]
    intro ab hab
    simpa using (halias ab hab).2
  rw [this]
  exact h2

end Inovesa
