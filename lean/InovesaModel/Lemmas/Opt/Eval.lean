/- `String.splitOn "="` in terms of lists, and how the tokenisers are evaluated on concrete input -/
import InovesaModel.Model.Options
import Batteries.Data.String.Lemmas
namespace Inovesa
open Gen

/-! ### `splitOn "="` in terms of lists; evaluating the tokenisers on concrete input -/
section
open _root_.String
theorem splitOnAux_eq (l m r : List Char) (acc : List String) :
    splitOnAux (ofList (l ++ m ++ r)) "=" ⟨utf8Len l⟩ ⟨utf8Len l + utf8Len m⟩ 0 acc =
      acc.reverse ++ (List.splitOnPPrepend (· == '=') r m.reverse).map ofList := by
  rw [splitOnAux]
  have hat : Pos.Raw.atEnd (ofList (l ++ m ++ r)) ⟨utf8Len l + utf8Len m⟩ = true ↔ r = [] := by
    have := atEnd_of_valid (l ++ m) r
    simpa using this
  cases r with
  | nil =>
    rw [if_pos (hat.2 rfl)]
    have := extract_of_valid l m []
    simp only [List.append_nil] at this ⊢
    rw [this]
    simp [List.splitOnPPrepend]
  | cons c r =>
    rw [if_neg (by rw [hat]; simp)]
    have hget : Pos.Raw.get (ofList (l ++ m ++ c :: r)) ⟨utf8Len l + utf8Len m⟩ = c := by
      simpa using get_of_valid (l ++ m) (c :: r)
    have hnext : Pos.Raw.next (ofList (l ++ m ++ c :: r)) ⟨utf8Len l + utf8Len m⟩
        = ⟨utf8Len l + utf8Len m + c.utf8Size⟩ := by
      simpa using next_of_valid (l ++ m) c r
    have h0 : (0 : Pos.Raw).get "=" = '=' := by decide +kernel
    have h1 : (0 : Pos.Raw).next "=" = ⟨1⟩ := by decide +kernel
    have h2 : (⟨1⟩ : Pos.Raw).atEnd "=" = true := by decide +kernel
    simp only [hget, h0, Pos.Raw.unoffsetBy_zero, hnext, h1, h2, if_true]
    by_cases hc : c = '='
    · subst hc
      simp only [beq_self_eq_true, if_true]
      have hsz : ('=' : Char).utf8Size = 1 := by decide
      have hun : (⟨utf8Len l + utf8Len m + ('=' : Char).utf8Size⟩ : Pos.Raw).unoffsetBy ⟨1⟩
          = ⟨utf8Len l + utf8Len m⟩ := by
        simp [Pos.Raw.ext_iff, hsz]
      rw [hun]
      have hex : Pos.Raw.extract (ofList (l ++ m ++ '=' :: r)) ⟨utf8Len l⟩ ⟨utf8Len l + utf8Len m⟩
          = ofList m := extract_of_valid l m ('=' :: r)
      rw [hex]
      have := splitOnAux_eq (l ++ m ++ ['=']) [] r (ofList m :: acc)
      simp only [List.append_assoc, List.singleton_append, utf8Len_append, utf8Len_cons,
        utf8Len_nil, Nat.add_zero, Nat.zero_add, List.append_nil, List.reverse_nil] at this
      rw [Nat.add_assoc, List.append_assoc, this]
      simp [List.splitOnPPrepend_cons_eq_if]
    · have hb : (c == '=') = false := by simpa using hc
      simp only [hb, Bool.false_eq_true, if_false]
      have := splitOnAux_eq l (m ++ [c]) r acc
      simp only [List.append_assoc, List.singleton_append, utf8Len_append, utf8Len_cons,
        utf8Len_nil, Nat.zero_add] at this
      rw [Nat.add_assoc, List.append_assoc, this]
      simp [List.splitOnPPrepend_cons_eq_if, hb]
termination_by r.length

theorem splitOn_eq (s : String) :
    s.splitOn "=" = (List.splitOnP (· == '=') s.toList).map ofList := by
  have h := splitOnAux_eq [] [] s.toList []
  simp only [List.nil_append, utf8Len_nil, Nat.add_zero, String.ofList_toList, List.reverse_nil] at h
  unfold String.splitOn
  rw [if_neg (by decide +kernel)]
  exact h
end

/-- `splitOn "="` as a structural function, which the kernel can evaluate -/
def splitEq (s : String) : List String := (List.splitOnP (· == '=') s.toList).map String.ofList

theorem splitOn_eq' (s : String) : s.splitOn "=" = splitEq s := splitOn_eq s

/-- Boolean form of the hypothesis of `storeParsed_succeeds`, for concrete sources; to evaluate it,
    `delta wellFormed isDigits; simp only [String.all_bool_eq]` first (`String.all` is defined by
    well-founded recursion) -/
theorem storable_of_check {desc : List OptSpec} {p : Parsed}
    (h : ∀ kv ∈ p, (findOpt desc kv.1).any (fun o => kv.2.all (wellFormed o.ty)) = true) :
    ∀ kv ∈ p, ∃ o, findOpt desc kv.1 = some o ∧ kv.2.all (wellFormed o.ty) = true :=
  fun kv hkv => (Option.any_eq_true _ _).1 (h kv hkv)

deriving instance DecidableEq for Except

theorem parseCLI_saved : parseCLI (described optionDecls cliGroups) ["--config", "@SAVED@"] =
    .ok [("config", ["@SAVED@"])] := by
  -- the kernel does not unfold the well-founded recursion of `String.splitOn`: expose the body of
  -- `parseCLIAux` (`parseCLIAux._f` is the name Lean gives the body of a structural recursion),
  -- replace `splitOn` there by its list version, and evaluate
  unfold parseCLI; delta parseCLIAux parseCLIAux._f; simp only [splitOn_eq']; decide +kernel

end Inovesa
