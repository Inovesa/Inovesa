/- `po::notify` on a sorted variables map -/
import InovesaModel.Lemmas.Opt.Map
namespace Inovesa
open Gen

/-! ### bound variables and `notify` -/

theorem varGet_nil (k : String) : varGet [] k = none := rfl

theorem varGet_cons (kv : String × List String) (r : Vars) (k : String) :
    varGet (kv :: r) k = if kv.1 = k then some kv.2 else varGet r k := by
  unfold varGet
  by_cases h : kv.1 = k <;> simp [h]

theorem varGet_varSet (vs : Vars) (k k' : String) (v : List String) :
    varGet (varSet vs k v) k' = if k' = k then some v else varGet vs k' := by
  unfold varSet varGet
  by_cases ha : vs.any (·.1 = k) = true
  · -- replacing the value keeps every key: `find?` commutes with the `map`
    have hg : ∀ kv : String × List String, (if kv.1 = k then (k, v) else kv).1 = kv.1 :=
      fun kv => by split <;> simp [*]
    rw [if_pos ha, List.find?_map]
    simp only [Function.comp_def, hg, Option.map_map]
    cases hf : vs.find? (·.1 = k') with
    | none =>
      obtain ⟨kv, hkv, hk⟩ := List.any_eq_true.1 ha
      have hne : k' ≠ k := by
        rintro rfl
        exact absurd hk (by simpa using List.find?_eq_none.1 hf kv hkv)
      simp [hne]
    | some kv =>
      obtain rfl : kv.1 = k' := by simpa using List.find?_some hf
      by_cases h : kv.1 = k <;> simp [h]
  · have hn : vs.find? (·.1 = k) = none :=
      List.find?_eq_none.2 fun kv hkv hk => ha (List.any_eq_true.2 ⟨kv, hkv, hk⟩)
    rw [if_neg ha, List.find?_append]
    by_cases h : k' = k
    · subst h; simp [hn]
    · simp [h, Ne.symm h]
theorem notifyVM_cons (decls : List OptSpec) (kv : String × VMEntry) (vm : VM) (vars : Vars) :
    notifyVM decls (kv :: vm) vars = notifyVM decls vm
      (match decls.find? (·.name = kv.1) with
        | some o => if o.var.isEmpty then vars else varSet vars o.var kv.2.toks
        | none => vars) := rfl

theorem notify_unchanged (decls : List OptSpec) (v n : String)
    (H1 : ∀ o' ∈ decls, o'.var = v → o'.name = n) :
    ∀ (vm : VM) (vars : Vars), (∀ kv ∈ vm, kv.1 ≠ n) →
      varGet (notifyVM decls vm vars) v = varGet vars v := by
  intro vm
  induction vm with
  | nil => intro vars _; rfl
  | cons kv r ih =>
    intro vars hk
    rw [notifyVM_cons, ih _ (fun kv' h => hk kv' (List.mem_cons_of_mem _ h))]
    cases hf : decls.find? (·.name = kv.1) with
    | none => rfl
    | some o' =>
      simp only
      split
      · rfl
      · rw [varGet_varSet, if_neg]
        intro hv
        have hn : o'.name = kv.1 := by simpa using List.find?_some hf
        exact hk kv (List.mem_cons_self ..) (hn ▸ H1 o' (List.mem_of_find?_eq_some hf) hv.symm)

/-- `notify` leaves in a variable that one option name owns the tokens of that option's entry -/
theorem notify_spec' (decls : List OptSpec) {v n : String} (hv : v ≠ "")
    (hown : ∀ o ∈ decls, o.var = v → o.name = n) (hbound : ∀ o ∈ decls, o.name = n → o.var = v)
    (hdecl : ∃ o ∈ decls, o.name = n) :
    ∀ (vm : VM) (vars : Vars) (e : VMEntry), VMSorted vm → vmFind vm n = some e →
      varGet (notifyVM decls vm vars) v = some e.toks := by
  obtain ⟨o1, H2, hv1⟩ : ∃ o1, decls.find? (·.name = n) = some o1 ∧ o1.var = v := by
    obtain ⟨o, ho, hn⟩ := hdecl
    cases h1 : decls.find? (·.name = n) with
    | none => exact absurd (by simpa using hn) (List.find?_eq_none.1 h1 o ho)
    | some o1 =>
      exact ⟨o1, rfl, hbound o1 (List.mem_of_find?_eq_some h1) (by simpa using List.find?_some h1)⟩
  intro vm
  induction vm with
  | nil => intro vars e _ h; cases h
  | cons kv r ih =>
    intro vars e hs hfind
    rw [vmFind_cons] at hfind
    unfold VMSorted at hs; simp only [List.map_cons, List.pairwise_cons] at hs
    rw [notifyVM_cons]
    by_cases hk : kv.1 = n
    · rw [if_pos hk] at hfind
      cases hfind
      rw [notify_unchanged decls v n hown]
      · rw [hk, H2]
        simp only [hv1]
        rw [if_neg (by rw [String.isEmpty_iff]; exact hv), varGet_varSet, if_pos rfl]
      · intro kv' hkv'
        rw [← hk]
        exact (String.ne_of_lt (hs.1 _ (List.mem_map_of_mem hkv'))).symm
    · rw [if_neg hk] at hfind
      exact ih _ e hs.2 hfind

end Inovesa
