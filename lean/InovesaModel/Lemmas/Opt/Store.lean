/- `po::store`: a fold of `storeStep` over the parsed source, then a fold of the defaults; key by key through `vmFind` -/
import InovesaModel.Lemmas.Opt.Map
namespace Inovesa
open Gen

/-! ### `po::store` -/

def storeStep (desc : List OptSpec) (final : List String) (st : VM × List String)
    (kv : String × List String) : Except PErr (VM × List String) :=
  let (vm, nf) := st
  let (k, vals) := kv
  if final.contains k then .ok (vm, nf)
  else
    match findOpt desc k with
    | none => .error (.unknownOption k)
    | some o =>
      if !(vals.all (wellFormed o.ty)) then .error (.invalidValue k)
      else
        let old := match vmFind vm k with
          | some e => if e.defaulted then [] else e.toks
          | none => []
        if !old.isEmpty && o.ty ≠ .vecf32 && nf.contains k then .error (.multipleOccurrences k)
        else .ok (vmInsert vm k { toks := (if nf.contains k then old else []) ++ vals, defaulted := false },
                  if nf.contains k then nf else nf ++ [k])

def storeDefaults (desc : List OptSpec) (vm : VM) : VM :=
  desc.foldl (fun vm o =>
    match o.default, vmFind vm o.name with
    | some d, none => vmInsert vm o.name { toks := [d], defaulted := true }
    | _, _ => vm) vm

theorem storeParsed_eq (desc : List OptSpec) (p : Parsed) (vm : VM) (final : List String) :
    storeParsed desc p vm final =
      match p.foldlM (storeStep desc final) (vm, []) with
      | .error e => .error e
      | .ok r => .ok (storeDefaults desc r.1, final ++ r.2) := by
  unfold storeParsed
  show (do let r ← p.foldlM (storeStep desc final) (vm, []); _) = _
  cases p.foldlM (storeStep desc final) (vm, []) <;> rfl

theorem storeStep_ok {desc : List OptSpec} {final : List String} {vm : VM} {nf : List String}
    {k1 : String} {vals : List String} {vm' : VM} {nf' : List String}
    (h : storeStep desc final (vm, nf) (k1, vals) = .ok (vm', nf')) :
    (final.contains k1 = true ∧ vm' = vm ∧ nf' = nf) ∨
    (final.contains k1 = false ∧ ∃ o, findOpt desc k1 = some o ∧ vals.all (wellFormed o.ty) = true ∧
      ∃ toks, vm' = vmInsert vm k1 ⟨toks, false⟩ ∧ (nf.contains k1 = false → toks = vals) ∧
        nf' = if nf.contains k1 then nf else nf ++ [k1]) := by
  simp only [storeStep] at h
  by_cases hf : final.contains k1 = true
  · simp only [hf, if_true, Except.ok.injEq, Prod.mk.injEq] at h
    exact .inl ⟨hf, h.1.symm, h.2.symm⟩
  · rw [if_neg hf] at h
    right
    refine ⟨by simpa using hf, ?_⟩
    cases ho : findOpt desc k1 with
    | none => simp [ho] at h
    | some o =>
      simp only [ho] at h
      generalize (match vmFind vm k1 with
        | some e => if e.defaulted = true then [] else e.toks
        | none => []) = old at h
      by_cases hw : (!vals.all (wellFormed o.ty)) = true
      · rw [if_pos hw] at h; cases h
      · rw [if_neg hw] at h
        split at h
        · cases h
        · simp only [Except.ok.injEq, Prod.mk.injEq] at h
          refine ⟨o, rfl, by simpa using hw, _, h.1.symm, ?_, h.2.symm⟩
          intro hn
          rw [hn]; simp


section
variable {desc : List OptSpec} {final : List String} {k : String}

/-- a step for another key, or for a key an earlier `store` made final, leaves key `k` alone -/
theorem storeStep_other {st st' : VM × List String} {kv : String × List String}
    (h : storeStep desc final st kv = .ok st') (hk : final.contains k = true ∨ kv.1 ≠ k) :
    vmFind st'.1 k = vmFind st.1 k ∧ st'.2.contains k = st.2.contains k := by
  obtain ⟨vm, nf⟩ := st; obtain ⟨vm', nf'⟩ := st'; obtain ⟨k1, vals⟩ := kv
  rcases storeStep_ok h with ⟨-, rfl, rfl⟩ | ⟨hf, -, -, -, toks, rfl, -, rfl⟩
  · exact ⟨rfl, rfl⟩
  · have hne : k ≠ k1 := by
      rcases hk with hk | hk
      · rintro rfl; rw [hf] at hk; cases hk
      · exact Ne.symm hk
    refine ⟨by rw [vmFind_insert, if_neg hne], ?_⟩
    split <;> simp [hne]

theorem storeFold_other {p : Parsed} {st r : VM × List String}
    (h : p.foldlM (storeStep desc final) st = .ok r)
    (hk : final.contains k = true ∨ ∀ kv ∈ p, kv.1 ≠ k) :
    vmFind r.1 k = vmFind st.1 k ∧ r.2.contains k = st.2.contains k := by
  induction p generalizing st with
  | nil => cases h; exact ⟨rfl, rfl⟩
  | cons kv t ih =>
    obtain ⟨st1, h1, h2⟩ := foldlM_ok_cons.1 h
    have := storeStep_other h1 (hk.imp_right fun h => h kv (List.mem_cons_self ..))
    have := ih h2 (hk.imp_right fun h kv hkv => h kv (List.mem_cons_of_mem _ hkv))
    simp_all

/-- a key not yet final, not yet seen in this source and given once: its entry is what was given -/
theorem storeFold_given {p : Parsed} {st r : VM × List String}
    (h : p.foldlM (storeStep desc final) st = .ok r) (hf : final.contains k = false) :
    r.2.contains k = (st.2.contains k || (p.find? (·.1 = k)).isSome) ∧
    (st.2.contains k = false → ∀ vals, p.filter (·.1 = k) = [(k, vals)] →
      vmFind r.1 k = some ⟨vals, false⟩) := by
  induction p generalizing st with
  | nil => cases h; simp
  | cons kv t ih =>
    obtain ⟨st1, h1, h2⟩ := foldlM_ok_cons.1 h
    obtain ⟨ih1, ih2⟩ := ih h2
    by_cases hk : kv.1 = k
    · obtain ⟨vm, nf⟩ := st; obtain ⟨vm1, nf1⟩ := st1; obtain ⟨k1, vals1⟩ := kv
      subst hk
      rcases storeStep_ok h1 with ⟨hf', -, -⟩ | ⟨-, -, -, -, toks, rfl, htoks, rfl⟩
      · rw [hf] at hf'; cases hf'
      · have hnf : (if nf.contains k1 = true then nf else nf ++ [k1]).contains k1 = true := by
          split <;> simp_all
        refine ⟨by rw [ih1, hnf]; simp, fun hn vals hv => ?_⟩
        simp only [List.filter_cons, decide_true, if_true, List.cons.injEq, Prod.mk.injEq,
          true_and] at hv
        rw [(storeFold_other h2 (.inr (by simpa [List.filter_eq_nil_iff] using hv.2))).1,
          vmFind_insert, if_pos rfl, htoks hn, hv.1]
    · obtain ⟨e1, e2⟩ := storeStep_other h1 (.inr hk)
      refine ⟨by rw [ih1, e2]; simp [hk], fun hn vals hv => ?_⟩
      rw [ih2 (e2 ▸ hn) vals (by simpa [List.filter_cons, hk] using hv), ]

end

/-- documented default of `k` in a description -/
def descDefaultTok (desc : List OptSpec) (k : String) : Option String :=
  (desc.find? (fun o => o.name = k ∧ o.default.isSome)).bind (·.default)

/-- the default entry the description provides for key `k` -/
def descDefault (desc : List OptSpec) (k : String) : Option VMEntry :=
  (descDefaultTok desc k).map (fun d => { toks := [d], defaulted := true })

theorem storeDefaults_spec (desc : List OptSpec) (k : String) : ∀ (vm : VM),
    vmFind (storeDefaults desc vm) k =
      match vmFind vm k with
      | some e => some e
      | none => descDefault desc k := by
  induction desc with
  | nil => intro vm; cases h : vmFind vm k <;> simp [storeDefaults, descDefault, descDefaultTok, h]
  | cons o t ih =>
    intro vm
    have hstep : storeDefaults (o :: t) vm = storeDefaults t
        (match o.default, vmFind vm o.name with
          | some d, none => vmInsert vm o.name { toks := [d], defaulted := true }
          | _, _ => vm) := rfl
    rw [hstep, ih]
    cases hd : o.default with
    | none =>
      have : descDefault (o :: t) k = descDefault t k := by
        simp [descDefault, descDefaultTok, hd]
      simp only [this]
    | some d =>
      cases hv : vmFind vm o.name with
      | some e0 =>
        simp only
        by_cases hk : o.name = k
        · subst hk; simp [hv]
        · have : descDefault (o :: t) k = descDefault t k := by
            simp [descDefault, descDefaultTok, hk]
          simp only [this]
      | none =>
        simp only [vmFind_insert]
        by_cases hk : o.name = k
        · subst hk
          simp [hv, descDefault, descDefaultTok, hd]
        · have : descDefault (o :: t) k = descDefault t k := by
            simp [descDefault, descDefaultTok, hk]
          simp only [this, if_neg (Ne.symm hk)]

theorem storeParsed_inv {desc : List OptSpec} {p : Parsed} {vm : VM} {final : List String}
    {vm' : VM} {final' : List String} (h : storeParsed desc p vm final = .ok (vm', final')) :
    ∃ vm1 nf1, p.foldlM (storeStep desc final) (vm, []) = .ok (vm1, nf1) ∧
      vm' = storeDefaults desc vm1 ∧ final' = final ++ nf1 := by
  rw [storeParsed_eq] at h
  cases hf : p.foldlM (storeStep desc final) (vm, []) with
  | error e => rw [hf] at h; cases h
  | ok r =>
    rw [hf] at h
    simp only [Except.ok.injEq, Prod.mk.injEq] at h
    exact ⟨r.1, r.2, rfl, h.1.symm, h.2.symm⟩

/-- `po::store`, key-wise (no global uniqueness of keys needed) -/
theorem storeParsed_find {desc : List OptSpec} {p : Parsed} {vm : VM} {final : List String}
    {vm' : VM} {final' : List String} (h : storeParsed desc p vm final = .ok (vm', final'))
    (k : String) :
    (final'.contains k = (final.contains k || (p.find? (·.1 = k)).isSome)) ∧
    (final.contains k = true ∨ p.filter (·.1 = k) = [] →
        vmFind vm' k = match vmFind vm k with
          | some e => some e
          | none => descDefault desc k) ∧
    (final.contains k = false → ∀ vals, p.filter (·.1 = k) = [(k, vals)] →
        vmFind vm' k = some ⟨vals, false⟩) := by
  obtain ⟨vm1, nf1, hf, rfl, rfl⟩ := storeParsed_inv h
  refine ⟨?_, fun h' => ?_, fun hf' vals hv => ?_⟩
  · rw [List.contains_append]
    cases hk : final.contains k
    · rw [(storeFold_given hf hk).1]; rfl
    · rfl
  · rw [storeDefaults_spec, (storeFold_other hf (h'.imp_right fun h kv hkv => by
      simpa using List.filter_eq_nil_iff.1 h kv hkv)).1]
  · rw [storeDefaults_spec, (storeFold_given hf hf').2 rfl vals hv]

namespace Props.C20

/-- value given for key `k` in a parsed source -/
def given (p : Parsed) (k : String) : Option (List String) := (p.find? (·.1 = k)).map (·.2)

/-- every key occurs at most once in a parsed source -/
def Once (p : Parsed) : Prop := (p.map (·.1)).Nodup

instance (p : Parsed) : Decidable (Once p) := inferInstanceAs (Decidable (List.Nodup _))

end Props.C20
open Props.C20

theorem storeParsed_final {desc : List OptSpec} {p : Parsed} {vm : VM} {final : List String}
    {vm' : VM} {final' : List String} (h : storeParsed desc p vm final = .ok (vm', final'))
    (k : String) : final'.contains k = (final.contains k || (given p k).isSome) := by
  rw [(storeParsed_find h k).1]; simp [given]

/-- `po::store` of a source in which every key occurs once -/
theorem store_spec' {desc : List OptSpec} {p : Parsed} {vm : VM} {final : List String}
    (hp : Once p) {vm' : VM} {final' : List String}
    (h : storeParsed desc p vm final = .ok (vm', final')) (k : String) :
    vmFind vm' k =
      if final.contains k then
        match vmFind vm k with
        | some e => some e
        | none => descDefault desc k
      else match given p k with
        | some vals => some ⟨vals, false⟩
        | none =>
          match vmFind vm k with
          | some e => some e
          | none => descDefault desc k := by
  obtain ⟨-, h2, h3⟩ := storeParsed_find h k
  by_cases hf : final.contains k = true
  · rw [if_pos hf, h2 (.inl hf)]
  · rw [if_neg hf]
    have hfil := filter_key_of_nodup p k hp
    unfold given
    cases hfind : p.find? (·.1 = k) with
    | none => rw [hfind] at hfil; rw [h2 (.inr hfil)]; rfl
    | some kv =>
      rw [hfind] at hfil
      obtain rfl : kv.1 = k := by simpa using List.find?_some hfind
      rw [h3 (by simpa using hf) kv.2 hfil]; rfl

theorem storeStep_succeeds {desc : List OptSpec} {final : List String} (vm : VM) {nf : List String}
    {k1 : String} {vals : List String} {o : OptSpec} (ho : findOpt desc k1 = some o)
    (hw : vals.all (wellFormed o.ty) = true) (hn : nf.contains k1 = false) :
    ∃ vm1 nf1, storeStep desc final (vm, nf) (k1, vals) = .ok (vm1, nf1) ∧
      (nf1 = nf ∨ nf1 = nf ++ [k1]) := by
  by_cases hf : final.contains k1 = true
  · exact ⟨vm, nf, by simp only [storeStep, hf, if_true], .inl rfl⟩
  · refine ⟨vmInsert vm k1 ⟨vals, false⟩, nf ++ [k1], ?_, .inr rfl⟩
    simp only [storeStep, ho, hw, hn, if_neg hf]
    simp

theorem storeFold_succeeds (desc : List OptSpec) (final : List String) :
    ∀ (p : Parsed) (vm : VM) (nf : List String),
      (∀ kv ∈ p, ∃ o, findOpt desc kv.1 = some o ∧ kv.2.all (wellFormed o.ty) = true) →
      (p.map (·.1)).Nodup → (∀ kv ∈ p, nf.contains kv.1 = false) →
      ∃ r, p.foldlM (storeStep desc final) (vm, nf) = .ok r := by
  intro p
  induction p with
  | nil => intro vm nf _ _ _; exact ⟨_, rfl⟩
  | cons kv t ih =>
    intro vm nf hv hnd hnf
    obtain ⟨k1, vals⟩ := kv
    obtain ⟨o, ho, hw⟩ := hv (k1, vals) (List.mem_cons_self ..)
    obtain ⟨vm1, nf1, hs, hnf1⟩ := storeStep_succeeds (final := final) vm ho hw
      (hnf (k1, vals) (List.mem_cons_self ..))
    rw [List.foldlM_cons, hs]
    simp only [List.map_cons, List.nodup_cons] at hnd
    apply ih vm1 nf1 (fun kv h => hv kv (List.mem_cons_of_mem _ h)) hnd.2
    intro kv hkv
    have h1 := hnf kv (List.mem_cons_of_mem _ hkv)
    rcases hnf1 with rfl | rfl
    · exact h1
    · have : kv.1 ≠ k1 := fun he => hnd.1 (he ▸ List.mem_map_of_mem hkv)
      simp only [List.contains_append, h1, Bool.false_or]
      simpa using this

theorem storeParsed_succeeds (desc : List OptSpec) (final : List String) (p : Parsed) (vm : VM)
    (hv : ∀ kv ∈ p, ∃ o, findOpt desc kv.1 = some o ∧ kv.2.all (wellFormed o.ty) = true)
    (hnd : Once p) :
    ∃ vm' final', storeParsed desc p vm final = .ok (vm', final') := by
  obtain ⟨r, hr⟩ := storeFold_succeeds desc final p vm [] hv hnd (by simp)
  rw [storeParsed_eq, hr]
  exact ⟨_, _, rfl⟩

theorem storeFold_keys {desc : List OptSpec} {final : List String} {p : Parsed}
    {st r : VM × List String} (h : p.foldlM (storeStep desc final) st = .ok r) :
    ∀ kv ∈ p, final.contains kv.1 = true ∨ (findOpt desc kv.1).isSome = true := by
  rintro ⟨k, vals⟩ hkv
  obtain ⟨⟨vm, nf⟩, ⟨vm', nf'⟩, hstep⟩ := foldlM_ok_mem h hkv
  rcases storeStep_ok hstep with ⟨hf, -, -⟩ | ⟨-, o, ho, -⟩
  · exact .inl hf
  · right; simp [ho]

theorem storeParsed_keys {desc : List OptSpec} {p : Parsed} {vm : VM} {final : List String}
    {r : VM × List String} (h : storeParsed desc p vm final = .ok r) :
    ∀ kv ∈ p, final.contains kv.1 = true ∨ (findOpt desc kv.1).isSome = true := by
  obtain ⟨vm', final'⟩ := r
  obtain ⟨vm1, nf1, hf, -, -⟩ := storeParsed_inv h
  exact storeFold_keys hf

theorem storeFold_error {desc : List OptSpec} {final : List String} {k : String}
    {vals : List String} {o : OptSpec} (hf : final.contains k = false)
    (ho : findOpt desc k = some o) (hbad : vals.all (wellFormed o.ty) = false)
    {p : Parsed} (st : VM × List String) (hmem : (k, vals) ∈ p) :
    ∃ e, p.foldlM (storeStep desc final) st = .error e := by
  cases h : p.foldlM (storeStep desc final) st with
  | error e => exact ⟨e, rfl⟩
  | ok r =>
    obtain ⟨⟨vm, nf⟩, s₂, hstep⟩ := foldlM_ok_mem h hmem
    simp only [storeStep, hf, ho, hbad] at hstep
    cases hstep

theorem storeFold_sorted {desc : List OptSpec} {final : List String} {p : Parsed}
    {st r : VM × List String} (h : p.foldlM (storeStep desc final) st = .ok r)
    (hs : VMSorted st.1) : VMSorted r.1 := by
  refine foldlM_ok_invariant (fun s => VMSorted s.1) h ?_ hs
  rintro ⟨vm, nf⟩ ⟨k, vals⟩ ⟨vm', nf'⟩ hstep hs
  rcases storeStep_ok hstep with ⟨-, rfl, -⟩ | ⟨-, o, -, -, toks, rfl, -, -⟩
  · exact hs
  · exact vmInsert_sorted _ _ _ hs

theorem storeDefaults_sorted (desc : List OptSpec) : ∀ (vm : VM), VMSorted vm →
    VMSorted (storeDefaults desc vm) := by
  induction desc with
  | nil => intro vm h; exact h
  | cons o t ih =>
    intro vm h
    have hstep : storeDefaults (o :: t) vm = storeDefaults t
        (match o.default, vmFind vm o.name with
          | some d, none => vmInsert vm o.name { toks := [d], defaulted := true }
          | _, _ => vm) := rfl
    rw [hstep]
    apply ih
    split
    · exact vmInsert_sorted _ _ _ h
    · exact h

theorem storeParsed_sorted {desc : List OptSpec} {p : Parsed} {vm : VM} {final : List String}
    {vm' : VM} {final' : List String} (h : storeParsed desc p vm final = .ok (vm', final'))
    (hs : VMSorted vm) : VMSorted vm' := by
  obtain ⟨vm1, nf1, hf, rfl, -⟩ := storeParsed_inv h
  exact storeDefaults_sorted _ _ (storeFold_sorted hf hs)

end Inovesa
