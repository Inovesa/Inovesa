/- `ProgramOptions::parse` after the command line: its cases, what it needs of the option table, the alias loop, precedence -/
import InovesaModel.Lemmas.Opt.Store
import InovesaModel.Lemmas.Opt.Notify
namespace Inovesa
open Gen Props.C20

/-! ### the structure of `parseOptions` -/

def aliasStep (vm : VM) (ab : String × String) : VM :=
  match vmFind vm ab.1, vmFind vm ab.2 with
  | some a, some s => if s.defaulted then vmInsert vm ab.2 { s with toks := a.toks } else vm
  | _, _ => vm

def aliasFold (aliases : List (String × String)) (vm : VM) : VM := aliases.foldl aliasStep vm

def fixVars (vars : Vars) : Vars :=
  let v1 := if (varGet vars "_outfile") = some ["/dev/null"] then varSet vars "_outfile" [""] else vars
  if (varGet v1 "_startdistfile") = some ["/dev/null"] then varSet v1 "_startdistfile" [""] else v1

def cfgNameOf (vars : Vars) : String := ((varGet vars "_configfile").getD []).headD ""

/-- what `parse` does after the command line has been stored -/
def parseRest (decls : List OptSpec) (cfgG : List String) (aliases : List (String × String))
    (cfgFile : String → Option (List String)) (vm : VM) (final : List String) : Outcome :=
  let vars := notifyVM decls vm initialVars
  if ["help", "copyright", "version", "buildinfo"].any (fun k => (vmFind vm k).isSome) then .norun
  else
    if cfgNameOf vars = "/dev/null" then .run vm (fixVars (varSet vars "_configfile" [""]))
    else if (cfgNameOf vars).isEmpty then .run vm (fixVars vars)
    else
      match cfgFile (cfgNameOf vars) with
      | some lines =>
        match parseCfg (described decls cfgG) lines >>= fun p => storeParsed (described decls cfgG) p vm final with
        | .error e => .error e
        | .ok (vm, _) => .run (aliasFold aliases vm) (fixVars (notifyVM decls (aliasFold aliases vm) vars))
      | none => if cfgNameOf vars ≠ "default.cfg" then .norun else .run vm (fixVars vars)

theorem parseOptions_eq (decls : List OptSpec) (cliG cfgG : List String)
    (aliases : List (String × String)) (args : List String)
    (cfgFile : String → Option (List String)) :
    parseOptions decls cliG cfgG aliases args cfgFile =
      match parseCLI (described decls cliG) args >>= fun p => storeParsed (described decls cliG) p [] [] with
      | .error e => .error e
      | .ok (vm, final) => parseRest decls cfgG aliases cfgFile vm final := rfl

theorem parseOptions_cli_error {decls : List OptSpec} {cliG cfgG : List String}
    {aliases : List (String × String)} {args : List String}
    {cfgFile : String → Option (List String)} {e : PErr}
    (h : parseCLI (described decls cliG) args = .error e) :
    parseOptions decls cliG cfgG aliases args cfgFile = .error e := by
  rw [parseOptions_eq, h]; rfl

theorem parseOptions_of_cli {decls : List OptSpec} {cliG cfgG : List String}
    {aliases : List (String × String)} {args : List String}
    {cfgFile : String → Option (List String)} {pc : Parsed}
    (h : parseCLI (described decls cliG) args = .ok pc) :
    parseOptions decls cliG cfgG aliases args cfgFile =
      match storeParsed (described decls cliG) pc [] [] with
      | .error e => .error e
      | .ok (vm, final) => parseRest decls cfgG aliases cfgFile vm final := by
  rw [parseOptions_eq, h]; rfl

/-- a run implies the command line was stored successfully and `parseRest` ran -/
theorem parseOptions_run_inv {decls : List OptSpec} {cliG cfgG : List String}
    {aliases : List (String × String)} {args : List String}
    {cfgFile : String → Option (List String)} {pc : Parsed} {vm : VM} {vars : Vars}
    (h : parseCLI (described decls cliG) args = .ok pc)
    (hrun : parseOptions decls cliG cfgG aliases args cfgFile = .run vm vars) :
    ∃ vm1 final1, storeParsed (described decls cliG) pc [] [] = .ok (vm1, final1) ∧
      parseRest decls cfgG aliases cfgFile vm1 final1 = .run vm vars := by
  rw [parseOptions_of_cli h] at hrun
  cases hs : storeParsed (described decls cliG) pc [] [] with
  | error e => rw [hs] at hrun; cases hrun
  | ok r => rw [hs] at hrun; exact ⟨r.1, r.2, rfl, hrun⟩

section
variable {decls : List OptSpec} {cfgG : List String} {aliases : List (String × String)}
  {cfgFile : String → Option (List String)} {vm : VM} {final : List String}

theorem parseRest_info
    (h : (["help", "copyright", "version", "buildinfo"].any fun k => (vmFind vm k).isSome) = true) :
    parseRest decls cfgG aliases cfgFile vm final = .norun := by
  unfold parseRest; rw [if_pos h]

theorem parseRest_devnull
    (h : (["help", "copyright", "version", "buildinfo"].any fun k => (vmFind vm k).isSome) = false)
    (hc : cfgNameOf (notifyVM decls vm initialVars) = "/dev/null") :
    parseRest decls cfgG aliases cfgFile vm final =
      .run vm (fixVars (varSet (notifyVM decls vm initialVars) "_configfile" [""])) := by
  unfold parseRest; simp only [hc]; rw [if_neg (by simp [h])]; rfl

theorem parseRest_file {c : String} {lines : List String}
    (h : (["help", "copyright", "version", "buildinfo"].any fun k => (vmFind vm k).isSome) = false)
    (hc : cfgNameOf (notifyVM decls vm initialVars) = c) (hne : c ≠ "/dev/null") (hne' : c ≠ "")
    (hfile : cfgFile c = some lines) :
    parseRest decls cfgG aliases cfgFile vm final =
      match parseCfg (described decls cfgG) lines >>= fun p =>
          storeParsed (described decls cfgG) p vm final with
      | .error e => .error e
      | .ok (vm2, _) => .run (aliasFold aliases vm2)
          (fixVars (notifyVM decls (aliasFold aliases vm2) (notifyVM decls vm initialVars))) := by
  unfold parseRest; simp only [hc]
  rw [if_neg (by simp [h]), if_neg hne, if_neg (by rw [String.isEmpty_iff]; exact hne'), hfile]

/-- a run that read a config file stored it on top of the command line and then ran the alias loop -/
theorem parseRest_cfg_inv {c : String} {lines : List String} {vm' : VM} {vars : Vars}
    (hc : cfgNameOf (notifyVM decls vm initialVars) = c) (hne : c ≠ "/dev/null") (hne' : c ≠ "")
    (hfile : cfgFile c = some lines)
    (hrun : parseRest decls cfgG aliases cfgFile vm final = .run vm' vars) :
    ∃ pf vm2 f2, parseCfg (described decls cfgG) lines = .ok pf ∧
      storeParsed (described decls cfgG) pf vm final = .ok (vm2, f2) ∧
      vm' = aliasFold aliases vm2 := by
  cases hany : ["help", "copyright", "version", "buildinfo"].any fun k => (vmFind vm k).isSome with
  | true => rw [parseRest_info hany] at hrun; cases hrun
  | false =>
    rw [parseRest_file hany hc hne hne' hfile] at hrun
    cases hcfg : parseCfg (described decls cfgG) lines with
    | error e => rw [hcfg] at hrun; cases hrun
    | ok pf =>
      rw [hcfg] at hrun
      cases hs : storeParsed (described decls cfgG) pf vm final with
      | error e => simp only [bind, Except.bind, hs] at hrun; cases hrun
      | ok r =>
        simp only [bind, Except.bind, hs, Outcome.run.injEq] at hrun
        exact ⟨pf, r.1, r.2, rfl, hs, hrun.1.symm⟩
end

theorem parseRest_nofile {decls : List OptSpec} {cfgG : List String}
    {aliases : List (String × String)} {cfgFile : String → Option (List String)}
    {vm1 : VM} {final1 : List String} {c : String}
    (hc : cfgNameOf (notifyVM decls vm1 initialVars) = c) (hne : c ≠ "/dev/null") (hne' : c ≠ "")
    (hd : c ≠ "default.cfg") (hfile : cfgFile c = none) :
    parseRest decls cfgG aliases cfgFile vm1 final1 = .norun := by
  unfold parseRest
  simp only [hc]
  by_cases hany : (["help", "copyright", "version", "buildinfo"].any
      (fun k => (vmFind vm1 k).isSome)) = true
  · rw [if_pos hany]
  · rw [if_neg hany, if_neg hne, if_neg (by rw [String.isEmpty_iff]; exact hne'), hfile]
    exact if_pos hd

/-! ### what `parse` needs of the option table -/

/-- two declarations of one name agree on variable and type; apart from `""` and `_hi`, a variable
    belongs to one name -/
def DeclsAgree (o o' : OptSpec) : Prop :=
  (o.name = o'.name → o.var = o'.var ∧ o.ty = o'.ty) ∧
  (o.var = o'.var → o.var = "" ∨ o.var = "_hi" ∨ o.name = o'.name)

instance : DecidableRel DeclsAgree := fun _ _ => inferInstanceAs (Decidable (_ ∧ _))

theorem DeclsAgree.symm {o o' : OptSpec} (h : DeclsAgree o o') : DeclsAgree o' o :=
  ⟨fun hn => let ⟨a, b⟩ := h.1 hn.symm; ⟨a.symm, b.symm⟩,
   fun hv => (h.2 hv.symm).imp (hv ▸ ·) (.imp (hv ▸ ·) Eq.symm)⟩

/-- declarations agree pairwise; `config` is bound to `_configfile`; the information flags have no
    default; a legacy name is known to the config file only and has no default, its current name
    has one on the command line; no legacy name is a current name, no current name has two legacy
    names -/
structure TableOK (decls : List OptSpec) (cliG cfgG : List String)
    (aliases : List (String × String)) : Prop where
  agree : decls.Pairwise DeclsAgree
  cfgDecl : ∃ o ∈ decls, o.name = "config" ∧ o.var = "_configfile"
  infoNoDefault : ∀ k ∈ ["help", "copyright", "version", "buildinfo"],
    descDefault (described decls cliG) k = none
  aliasCfgOnly : ∀ ab ∈ aliases,
    findOpt (described decls cliG) ab.1 = none ∧
    descDefault (described decls cliG) ab.1 = none ∧
    descDefault (described decls cfgG) ab.1 = none ∧
    (descDefault (described decls cliG) ab.2).isSome = true
  aliasDisjoint : ∀ ab ∈ aliases, ∀ ab' ∈ aliases, ab'.1 ≠ ab.2
  aliasNodup : (aliases.map (·.2)).Nodup

theorem tableOK : TableOK optionDecls cliGroups cfgGroups optionAliases := by
  constructor <;> decide +kernel

section
variable {decls : List OptSpec} {cliG cfgG : List String} {aliases : List (String × String)}
  (T : TableOK decls cliG cfgG aliases) {o o' : OptSpec} (ho : o ∈ decls) (ho' : o' ∈ decls)
include T ho ho'

/-- the relation is symmetric and reflexive, so the pairs of the list in order are enough -/
theorem TableOK.agree' : DeclsAgree o o' :=
  T.agree.forall_of_forall_of_flip (fun _ _ => ⟨fun _ => ⟨rfl, rfl⟩, fun _ => .inr (.inr rfl)⟩)
    (T.agree.imp DeclsAgree.symm) ho ho'

theorem TableOK.var_name (h1 : o.var ≠ "") (h2 : o.var ≠ "_hi") (hv : o.var = o'.var) :
    o.name = o'.name :=
  ((T.agree' ho ho').2 hv).resolve_left h1 |>.resolve_left h2

theorem TableOK.name_var (hn : o.name = o'.name) : o.var = o'.var ∧ o.ty = o'.ty :=
  (T.agree' ho ho').1 hn

omit ho'
/-- what `notify` leaves in a variable bound by exactly one option name: that entry's tokens -/
theorem TableOK.notify (hv : o.var ≠ "") (hhi : o.var ≠ "_hi") {vm : VM} (vars : Vars) {e : VMEntry}
    (hs : VMSorted vm) (he : vmFind vm o.name = some e) :
    varGet (notifyVM decls vm vars) o.var = some e.toks :=
  notify_spec' decls hv (fun _ ho' hv' => (T.var_name ho ho' hv hhi hv'.symm).symm)
    (fun _ ho' hn => (T.name_var ho' ho hn).1) ⟨o, ho, rfl⟩ vm vars e hs he
end

theorem alias_wf : ∀ ab ∈ optionAliases,
    (∀ o ∈ optionDecls, o.name = ab.1 → o.var = "" ∧ o.default = none ∧ o.group = "_compatopts_alias") ∧
    (∃ o ∈ optionDecls, o.name = ab.2 ∧ o.default.isSome) := by decide +kernel

/-! ### `parse` after the command line has been stored -/

section
variable {decls : List OptSpec} {cliG cfgG : List String} {aliases : List (String × String)}
  {cfgFile : String → Option (List String)} {pc : Parsed} {vm1 : VM} {final1 : List String}

theorem vmFind_cliStore (hs : storeParsed (described decls cliG) pc [] [] = .ok (vm1, final1))
    (hpc : Once pc) (k : String) :
    vmFind vm1 k = match given pc k with
      | some vals => some ⟨vals, false⟩
      | none => descDefault (described decls cliG) k :=
  store_spec' hpc hs k

theorem final_cliStore (hs : storeParsed (described decls cliG) pc [] [] = .ok (vm1, final1))
    (k : String) : final1.contains k = (given pc k).isSome :=
  storeParsed_final hs k

variable (T : TableOK decls cliG cfgG aliases)
  (hs : storeParsed (described decls cliG) pc [] [] = .ok (vm1, final1)) (hpc : Once pc)
include T hs hpc

theorem cfgNameOf_cliStore {c : String} (hname : given pc "config" = some [c]) :
    cfgNameOf (notifyVM decls vm1 initialVars) = c := by
  have hf : vmFind vm1 "config" = some ⟨[c], false⟩ := by rw [vmFind_cliStore hs hpc, hname]
  obtain ⟨o, ho, hn, hv⟩ := T.cfgDecl
  unfold cfgNameOf
  rw [← hv, T.notify ho (by rw [hv]; decide) (by rw [hv]; decide) initialVars
    (storeParsed_sorted hs vmSorted_nil) (hn ▸ hf)]
  rfl

theorem noInfo_cliStore
    (hno : ∀ k ∈ ["help", "copyright", "version", "buildinfo"], given pc k = none) :
    (["help", "copyright", "version", "buildinfo"].any fun k => (vmFind vm1 k).isSome) = false := by
  rw [List.any_eq_false]
  intro k hk
  rw [vmFind_cliStore hs hpc, hno k hk, T.infoNoDefault k hk]; simp

end

section
variable {decls : List OptSpec} {cliG cfgG : List String} {aliases : List (String × String)}
  {cfgFile : String → Option (List String)} (T : TableOK decls cliG cfgG aliases)
  {args : List String} {pc : Parsed}
  (hcli : parseCLI (described decls cliG) args = .ok pc) (hpc : Once pc)
  (hvc : ∀ kv ∈ pc, ∃ o, findOpt (described decls cliG) kv.1 = some o ∧
    kv.2.all (wellFormed o.ty) = true)
  (hno : ∀ k ∈ ["help", "copyright", "version", "buildinfo"], given pc k = none)
include T hcli hpc hvc hno

/-- `--config /dev/null`: the command line alone decides -/
theorem parseOptions_runs_devnull (hname : given pc "config" = some ["/dev/null"]) :
    ∃ vm final, storeParsed (described decls cliG) pc [] [] = .ok (vm, final) ∧
      parseOptions decls cliG cfgG aliases args cfgFile =
        .run vm (fixVars (varSet (notifyVM decls vm initialVars) "_configfile" [""])) := by
  obtain ⟨vm1, final1, hs1⟩ := storeParsed_succeeds _ [] pc [] hvc hpc
  refine ⟨vm1, final1, hs1, ?_⟩
  rw [parseOptions_of_cli hcli, hs1]
  exact parseRest_devnull (noInfo_cliStore T hs1 hpc hno) (cfgNameOf_cliStore T hs1 hpc hname)

/-- `parse` runs when command line and config file are accepted -/
theorem parseOptions_runs_cfg {pf : Parsed} {c : String} {lines : List String}
    (hname : given pc "config" = some [c]) (hne : c ≠ "/dev/null") (hne' : c ≠ "")
    (hfile : cfgFile c = some lines)
    (hcfg : parseCfg (described decls cfgG) lines = .ok pf) (hpf : Once pf)
    (hvf : ∀ kv ∈ pf, ∃ o, findOpt (described decls cfgG) kv.1 = some o ∧
      kv.2.all (wellFormed o.ty) = true) :
    ∃ vm vars, parseOptions decls cliG cfgG aliases args cfgFile = .run vm vars := by
  obtain ⟨vm1, final1, hs1⟩ := storeParsed_succeeds _ [] pc [] hvc hpc
  obtain ⟨vm2, f2, hs2⟩ := storeParsed_succeeds _ final1 pf vm1 hvf hpf
  rw [parseOptions_of_cli hcli, hs1]
  simp only
  rw [parseRest_file (noInfo_cliStore T hs1 hpc hno) (cfgNameOf_cliStore T hs1 hpc hname) hne hne'
    hfile]
  simp only [hcfg, bind, Except.bind, hs2]
  exact ⟨_, _, rfl⟩

end

/-! ### the alias loop -/

theorem vmFind_aliasStep (vm : VM) (ab : String × String) (k : String) :
    vmFind (aliasStep vm ab) k =
      if k = ab.2 then
        (match vmFind vm ab.1, vmFind vm ab.2 with
         | some a, some s => if s.defaulted then some { s with toks := a.toks } else some s
         | _, x => x)
      else vmFind vm k := by
  unfold aliasStep
  by_cases hk : k = ab.2
  · subst hk
    rw [if_pos rfl]
    cases h1 : vmFind vm ab.1 <;> cases h2 : vmFind vm ab.2 <;> simp only [h2]
    rename_i a s
    by_cases hd : s.defaulted = true
    · simp only [hd, if_true, vmFind_insert]
    · rw [if_neg hd, if_neg hd, h2]
  · rw [if_neg hk]
    cases h1 : vmFind vm ab.1 <;> cases h2 : vmFind vm ab.2 <;> simp only
    rename_i a s
    split
    · rw [vmFind_insert, if_neg hk]
    · rfl

theorem vmFind_aliasFold (k : String) : ∀ (aliases : List (String × String)) (vm : VM),
    (∀ ab ∈ aliases, ∀ ab' ∈ aliases, ab'.1 ≠ ab.2) → (aliases.map (·.2)).Nodup →
    vmFind (aliasFold aliases vm) k =
      match aliases.find? (·.2 = k) with
      | none => vmFind vm k
      | some ab =>
        (match vmFind vm ab.1, vmFind vm k with
         | some a, some s => if s.defaulted then some { s with toks := a.toks } else some s
         | _, x => x) := by
  intro aliases
  induction aliases with
  | nil => intro vm _ _; rfl
  | cons ab t ih =>
    intro vm hd hn
    have hfold : aliasFold (ab :: t) vm = aliasFold t (aliasStep vm ab) := rfl
    simp only [List.map_cons, List.nodup_cons] at hn
    rw [hfold, ih _ (fun a ha b hb => hd a (List.mem_cons_of_mem _ ha) b (List.mem_cons_of_mem _ hb)) hn.2]
    by_cases hk : ab.2 = k
    · subst hk
      have : t.find? (·.2 = ab.2) = none := by
        rw [List.find?_eq_none]
        intro x hx hx'
        simp only [decide_eq_true_eq] at hx'
        exact hn.1 (hx' ▸ List.mem_map_of_mem hx)
      simp only [this, List.find?_cons, decide_true]
      rw [vmFind_aliasStep, if_pos rfl]
    · simp only [List.find?_cons, hk, decide_false]
      cases hf : t.find? (·.2 = k) with
      | none => simp only; rw [vmFind_aliasStep, if_neg (Ne.symm hk)]
      | some ab' =>
        simp only
        have hmem : ab' ∈ t := List.mem_of_find?_eq_some hf
        rw [vmFind_aliasStep, if_neg (hd ab (List.mem_cons_self ..) ab' (List.mem_cons_of_mem _ hmem)),
          vmFind_aliasStep, if_neg (Ne.symm hk)]

theorem aliasStep_sorted (vm : VM) (ab : String × String) (h : VMSorted vm) :
    VMSorted (aliasStep vm ab) := by
  unfold aliasStep
  split
  · split
    · exact vmInsert_sorted _ _ _ h
    · exact h
  · exact h

theorem aliasFold_sorted : ∀ (aliases : List (String × String)) (vm : VM), VMSorted vm →
    VMSorted (aliasFold aliases vm) := by
  intro aliases
  induction aliases with
  | nil => intro vm h; exact h
  | cons ab t ih => intro vm h; exact ih _ (aliasStep_sorted vm ab h)

theorem find?_key_and {α : Type} (f : α → String) (q : α → Bool) (k : String) : ∀ (l : List α),
    (l.map f).Nodup →
    l.find? (fun a => decide (f a = k) && q a) =
      (l.find? (f · = k)).bind (fun a => if q a then some a else none) := by
  intro l
  induction l with
  | nil => intro _; rfl
  | cons x t ih =>
    intro hn
    rw [List.map_cons, List.nodup_cons] at hn
    by_cases hp : f x = k
    · by_cases hq : q x = true
      · simp [hp, hq]
      · simp only [List.find?_cons, hp, decide_true, Bool.true_and, hq, Option.bind_some,
          Bool.false_eq_true, if_false]
        rw [List.find?_eq_none]
        intro y hy
        have : f y ≠ k := fun h => hn.1 (hp ▸ h ▸ List.mem_map_of_mem hy)
        simp [this]
    · simp only [List.find?_cons, hp, decide_false, Bool.false_and]
      exact ih hn.2

/-! ### precedence -/

theorem given_none_of_not_described {desc : List OptSpec} {pc : Parsed} {r : VM × List String}
    (hs : storeParsed desc pc [] [] = .ok r) {k : String} (hk : findOpt desc k = none) :
    given pc k = none := by
  unfold given
  cases hf : pc.find? (·.1 = k) with
  | none => rfl
  | some kv =>
    have hmem := List.mem_of_find?_eq_some hf
    have hkv : kv.1 = k := by simpa using List.find?_some hf
    rcases storeParsed_keys hs kv hmem with h | h
    · simp at h
    · rw [hkv, hk] at h; cases h

section
variable {decls : List OptSpec} {cliG cfgG : List String} {aliases : List (String × String)}
  {pc pf : Parsed} {vm1 vm2 : VM} {final1 f2 : List String}

/-- the variables map after command line and config file: the first source that gives `k` wins -/
theorem vmFind_cfgStore (hs1 : storeParsed (described decls cliG) pc [] [] = .ok (vm1, final1))
    (hpc : Once pc)
    (hs2 : storeParsed (described decls cfgG) pf vm1 final1 = .ok (vm2, f2))
    (hpf : Once pf) (k : String) :
    vmFind vm2 k = match given pc k with
      | some v => some ⟨v, false⟩
      | none => match given pf k with
        | some v => some ⟨v, false⟩
        | none => match descDefault (described decls cliG) k with
          | some e => some e
          | none => descDefault (described decls cfgG) k := by
  rw [store_spec' hpf hs2 k, final_cliStore hs1, vmFind_cliStore hs1 hpc]
  unfold given
  cases (pc.find? (·.1 = k)).map (·.2) <;> cases (pf.find? (·.1 = k)).map (·.2) <;> rfl

theorem precedence_of_tableOK (T : TableOK decls cliG cfgG aliases) (args : List String)
    (cfgname : String) (lines : List String)
    (file : String → Option (List String)) (pc pf : Parsed) (vm : VM) (vars : Vars)
    (hcli : parseCLI (described decls cliG) args = .ok pc) (hpc : Once pc)
    (hname : given pc "config" = some [cfgname]) (hne : cfgname ≠ "/dev/null") (hne' : cfgname ≠ "")
    (hfile : file cfgname = some lines)
    (hcfg : parseCfg (described decls cfgG) lines = .ok pf) (hpf : Once pf)
    (hrun : parseOptions decls cliG cfgG aliases args file = .run vm vars)
    (k : String) :
    (vmFind vm k).map (·.toks) =
      (match given pc k with
       | some v => some v
       | none =>
         match given pf k with
         | some v => some v
         | none =>
           match (aliases.find? (fun ab => ab.2 = k ∧ (given pf ab.1).isSome)) with
           | some ab => given pf ab.1
           | none =>
             (match descDefaultTok (described decls cliG) k with
              | some d => some [d]
              | none => (descDefaultTok (described decls cfgG) k).map (fun d => [d]))) := by
  obtain ⟨vm1, final1, hs1, hrest⟩ := parseOptions_run_inv hcli hrun
  obtain ⟨pf', vm2, f2, hcfg', hs2, rfl⟩ :=
    parseRest_cfg_inv (cfgNameOf_cliStore T hs1 hpc hname) hne hne' hfile hrest
  cases hcfg.symm.trans hcfg'
  have hv2 := vmFind_cfgStore hs1 hpc hs2 hpf
  -- a legacy name can only come from the config file
  have halias : ∀ ab ∈ aliases, vmFind vm2 ab.1 = (given pf ab.1).map (⟨·, false⟩) := by
    intro ab hab
    obtain ⟨h1, h2, h3, -⟩ := T.aliasCfgOnly ab hab
    rw [hv2, given_none_of_not_described hs1 h1, h2, h3]
    cases given pf ab.1 <;> rfl
  have hconj : aliases.find? (fun ab => ab.2 = k ∧ (given pf ab.1).isSome) =
      (aliases.find? (·.2 = k)).bind
        (fun a => if (given pf a.1).isSome then some a else none) := by
    refine Eq.trans ?_ (find?_key_and (·.2) (fun ab => (given pf ab.1).isSome) k aliases T.aliasNodup)
    congr 1; funext ab; simp
  rw [vmFind_aliasFold k aliases vm2 T.aliasDisjoint T.aliasNodup, hconj, hv2 k]
  cases hfa : aliases.find? (·.2 = k) with
  | none =>
    simp only [descDefault]
    cases given pc k <;> cases given pf k <;> cases descDefaultTok (described decls cliG) k <;>
      cases descDefaultTok (described decls cfgG) k <;> rfl
  | some ab =>
    have hab : ab ∈ aliases := List.mem_of_find?_eq_some hfa
    obtain rfl : ab.2 = k := by simpa using List.find?_some hfa
    -- `k` has a default on the command line: its entry, unless given, is a defaulted one
    obtain ⟨d, hd⟩ : ∃ d, descDefaultTok (described decls cliG) ab.2 = some d := by
      have := (T.aliasCfgOnly ab hab).2.2.2
      rw [descDefault, Option.isSome_map] at this
      exact Option.isSome_iff_exists.1 this
    simp only [halias ab hab, descDefault, hd, Option.bind_some]
    cases given pc ab.2 <;> cases given pf ab.2 <;> cases hga : given pf ab.1 <;> simp [hga]
end

end Inovesa
