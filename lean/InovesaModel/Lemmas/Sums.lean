/-
  What every field-valued lemma file needs of lists and finite sums: the loops of the C++ code are modelled as left
  folds over `List.range`, the theorems speak of `Finset` sums.
-/
import InovesaModel.Lemmas.Index
import InovesaModel.Lemmas.Field
import Mathlib.Algebra.BigOperators.Intervals
import Mathlib.Algebra.BigOperators.Ring.Finset
namespace Inovesa
open Finset

section Scalar
variable {α : Type} [Field α]

@[simp] theorem zero_field : (zero : α) = 0 := by rw [zero, lit_one, Int.cast_zero]

end Scalar

section Sums
variable {β ι : Type} [AddCommMonoid β]

/-- an accumulation loop: start value plus the sum of the terms -/
theorem foldl_add_eq_sum (g : ι → β) (l : List ι) (a : β) :
    l.foldl (fun acc i => acc + g i) a = a + (l.map g).sum := by
  induction l generalizing a with
  | nil => simp
  | cons x xs ih => rw [List.foldl_cons, ih, List.map_cons, List.sum_cons, add_assoc]

/-- `Finset.range n` is `List.range n` underneath -/
theorem sum_map_range (n : ℕ) (f : ℕ → β) : ((List.range n).map f).sum = ∑ i ∈ range n, f i := rfl

theorem foldl_range_eq_sum (n : ℕ) (g : ℕ → β) (a : β) :
    (List.range n).foldl (fun acc i => acc + g i) a = a + ∑ i ∈ range n, g i :=
  foldl_add_eq_sum g _ a

theorem sum_flatMap (l : List ι) (f : ι → List β) : (l.flatMap f).sum = (l.map fun i => (f i).sum).sum := by
  rw [List.flatMap_def, List.sum_flatten, List.map_map]; rfl

/-- block decomposition of a range sum -/
theorem sum_range_mul_block (a m : ℕ) (f : ℕ → β) :
    ∑ i ∈ range (a * m), f i = ∑ q ∈ range a, ∑ r ∈ range m, f (q * m + r) := by
  induction a with
  | zero => simp
  | succ a ih => rw [Nat.succ_mul, Finset.sum_range_add, ih, Finset.sum_range_succ]

end Sums

/-- the loops of the model start at the scalar `zero` -/
theorem foldl_range_zero {α : Type} [Field α] (n : ℕ) (g : ℕ → α) :
    (List.range n).foldl (fun acc i => acc + g i) zero = ∑ i ∈ range n, g i := by
  rw [foldl_range_eq_sum, zero_field, zero_add]

end Inovesa
