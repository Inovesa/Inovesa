/-
  The Fokker–Planck table in a field.  The generated constructor is read once: which statement writes a
  row (`fpWinner…`), and what it writes (`fpBody_border`, `fpBody3_one`, `fpBody4_lo/hi`).  From there the table is
  a band matrix (`fp3_entry`, `fp4_entry`): row `y` carries `wRow c N a b δ (p y)` on the sources `y-2 … y+2`, where
  the Fokker–Planck type only decides the damping and diffusion decrements `a`, `b` and the row kind only the integer
  first-derivative stencil `c/N`.  Column sums and moments are then one computation (`stencil_moments`) behind
  `colMoment_band`.
-/
import InovesaModel.Model.FokkerPlanck
import InovesaModel.Lemmas.Sums
import Mathlib.Tactic.LinearCombination
namespace Inovesa
open Gen

section basics
variable {α : Type} [Field α]

theorem fpCell_eq (row : List (Hi α)) (rd : ℕ → α) :
    fpCell row rd = (row.map fun h => rd h.1 * h.2).sum := by
  unfold fpCell; rw [foldl_add_eq_sum (fun h : Hi α => rd h.1 * h.2), zero_field, zero_add]

/-- weight with which source cell `s` occurs in a row -/
def rowEntry (row : List (Hi α)) (s : ℕ) : α :=
  ((row.filter fun h => h.1 = s).map fun h => h.2).sum

theorem rowEntry_nil (s : ℕ) : rowEntry ([] : List (Hi α)) s = 0 := by simp [rowEntry]

theorem rowEntry_cons (i : ℕ) (a : α) (t : List (Hi α)) (s : ℕ) :
    rowEntry ((i, a) :: t) s = (if i = s then a else 0) + rowEntry t s := by
  unfold rowEntry
  by_cases h : i = s <;> simp [h]

theorem rowEntry_replicate_zero (m i s : ℕ) : rowEntry (List.replicate m (i, (zero : α))) s = 0 := by
  induction m with
  | zero => exact rowEntry_nil s
  | succ m ih => rw [List.replicate_succ, rowEntry_cons, ih, zero_field, ite_self, add_zero]

theorem row_sum_eq (n : ℕ) (row : List (Hi α)) (rd : ℕ → α) (h : ∀ x ∈ row, x.1 < n) :
    (row.map fun h => rd h.1 * h.2).sum = ∑ s ∈ Finset.range n, rd s * rowEntry row s := by
  induction row with
  | nil => simp [rowEntry_nil]
  | cons x t ih =>
    obtain ⟨i, a⟩ := x
    have hi : i < n := h (i, a) (by simp)
    have ht : ∀ x ∈ t, x.1 < n := fun x hx => h x (by simp [hx])
    simp only [List.map_cons, List.sum_cons, ih ht, rowEntry_cons, mul_add, Finset.sum_add_distrib]
    congr 1
    simp [Finset.sum_ite_eq, hi]

theorem transport (n : ℕ) (rowAt : ℕ → List (Hi α)) (rd g : ℕ → α)
    (hidx : ∀ y, y < n → ∀ h ∈ rowAt y, h.1 < n) :
    ((List.range n).map fun y => g y * fpCell (rowAt y) rd).sum
      = ((List.range n).map fun s => rd s *
          ((List.range n).map fun y => g y * rowEntry (rowAt y) s).sum).sum := by
  rw [sum_map_range, sum_map_range]
  have : ∀ y ∈ Finset.range n, g y * fpCell (rowAt y) rd
      = ∑ s ∈ Finset.range n, rd s * (g y * rowEntry (rowAt y) s) := by
    intro y hy
    rw [fpCell_eq, row_sum_eq n _ _ (hidx y (Finset.mem_range.mp hy)), Finset.mul_sum]
    exact Finset.sum_congr rfl fun s _ => by ring
  rw [Finset.sum_congr rfl this, Finset.sum_comm]
  refine Finset.sum_congr rfl fun s _ => ?_
  rw [sum_map_range, Finset.mul_sum]

/-- transport with known column moments on the support of the data -/
theorem moment_step (n : ℕ) (rowAt : ℕ → List (Hi α)) (rd g c : ℕ → α)
    (hidx : ∀ y, y < n → ∀ h ∈ rowAt y, h.1 < n)
    (hcol : ∀ s, s < n → rd s ≠ 0 →
      ((List.range n).map fun y => g y * rowEntry (rowAt y) s).sum = c s) :
    ((List.range n).map fun y => g y * fpCell (rowAt y) rd).sum
      = ((List.range n).map fun s => rd s * c s).sum := by
  rw [transport n rowAt rd g hidx, sum_map_range, sum_map_range]
  refine Finset.sum_congr rfl fun s hs => ?_
  by_cases h0 : rd s = 0
  · rw [h0, zero_mul, zero_mul]
  · rw [hcol s (Finset.mem_range.mp hs) h0]

theorem line_conserves (n : ℕ) (rowAt : ℕ → List (Hi α)) (rd : ℕ → α)
    (hidx : ∀ y, y < n → ∀ h ∈ rowAt y, h.1 < n)
    (hcol : ∀ s, s < n → rd s ≠ 0 →
      ((List.range n).map fun y => (1 : α) * rowEntry (rowAt y) s).sum = 1) :
    ((List.range n).map fun y => fpCell (rowAt y) rd).sum = ((List.range n).map rd).sum := by
  have := moment_step n rowAt rd (fun _ => 1) (fun _ => 1) hidx hcol
  simpa using this

/-- a sum over `List.range n` of a function vanishing outside an explicit duplicate-free
    list of indices below `n` is the sum over that list -/
theorem range_sum_eq_list (n : ℕ) (F : ℕ → α) (L : List ℕ) (hnd : L.Nodup)
    (hL : ∀ y ∈ L, y < n) (h0 : ∀ y, y < n → y ∉ L → F y = 0) :
    ((List.range n).map F).sum = (L.map F).sum := by
  rw [sum_map_range, ← List.sum_toFinset F hnd]
  symm
  apply Finset.sum_subset
  · intro y hy; rw [List.mem_toFinset] at hy; exact Finset.mem_range.mpr (hL y hy)
  · intro y hy hy'
    rw [List.mem_toFinset] at hy'
    exact h0 y (Finset.mem_range.mp hy) hy'

/-- entry at source `s` of row `y` of a table of bandwidth two; `w` holds the weights of the
    sources `y-2 … y+2` -/
def bandEntry (w : α × α × α × α × α) (y s : ℕ) : α :=
  (if y = s + 2 then w.1 else 0) + (if y = s + 1 then w.2.1 else 0) + (if y = s then w.2.2.1 else 0)
    + (if y + 1 = s then w.2.2.2.1 else 0) + (if y + 2 = s then w.2.2.2.2 else 0)

/-- a column of a band table collects one weight from each of the five rows around it -/
theorem colMoment_band (n : ℕ) (rowAt : ℕ → List (Hi α)) (W : ℕ → α × α × α × α × α) (g : ℕ → α)
    (t : ℕ) (ht : t + 4 < n)
    (h : ∀ y, y < n → rowEntry (rowAt y) (t + 2) = bandEntry (W y) y (t + 2)) :
    ((List.range n).map fun y => g y * rowEntry (rowAt y) (t + 2)).sum
      = g (t + 4) * (W (t + 4)).1 + g (t + 3) * (W (t + 3)).2.1 + g (t + 2) * (W (t + 2)).2.2.1
        + g (t + 1) * (W (t + 1)).2.2.2.1 + g t * (W t).2.2.2.2 := by
  have a : ∀ y, (y + 1 = t + 2) = (y = t + 1) := fun y => propext (by omega)
  have b : ∀ y, (y + 2 = t + 2) = (y = t) := fun y => propext (by omega)
  rw [sum_map_range, Finset.sum_congr rfl fun y hy => by rw [h y (Finset.mem_range.mp hy)]]
  simp only [bandEntry, b]
  simp only [a, mul_add, mul_ite, mul_zero, Finset.sum_add_distrib, Finset.sum_ite_eq',
    Finset.mem_range]
  rw [if_pos ht, if_pos (by omega), if_pos (by omega), if_pos (by omega), if_pos (by omega)]

end basics

section winners
variable (n jc : ℕ) (ltyc : ℕ → Bool) (j : ℕ)

theorem pos_fromEnd (c : ℕ) (hc : c ≤ n) (hn : n < 2 ^ 31) :
    (FPBound.fromEnd c).pos n jc = n - c :=
  wrap_sub hc (hn.trans (by decide))

theorem pos_const (c : ℕ) : (FPBound.const c).pos n jc = c := rfl
theorem pos_truncYc : (FPBound.truncYc).pos n jc = jc := rfl

theorem covers_row (r : FPBound) (b : ℕ) :
    (FPWriter.row r b).covers n jc ltyc j = true ↔ j = r.pos n jc := by
  simp [FPWriter.covers]

theorem covers_loop_fromEnd (lo : FPBound) (c b : ℕ) :
    (FPWriter.loop lo (.fromEnd c) b).covers n jc ltyc j = true
      ↔ lo.pos n jc ≤ j ∧ j < (FPBound.fromEnd c).pos n jc := by
  simp [FPWriter.covers]

theorem covers_loop_ltYc (lo : FPBound) (b : ℕ) :
    (FPWriter.loop lo .ltYc b).covers n jc ltyc j = true
      ↔ lo.pos n jc ≤ j ∧ ltyc j = true := by
  simp [FPWriter.covers]

theorem fpWinner3_list :
    fpWinner 3 n jc ltyc j =
      [FPWriter.row (.fromEnd 1) 2, .loop (.const 1) (.fromEnd 1) 1, .row (.const 0) 0].find?
        (FPWriter.covers n jc ltyc j) := rfl

theorem fpWinner4_list :
    fpWinner 4 n jc ltyc j =
      [FPWriter.row (.fromEnd 1) 5, .row (.fromEnd 2) 4, .loop .truncYc (.fromEnd 2) 3,
       .loop (.const 2) .ltYc 2, .row (.const 1) 1, .row (.const 0) 0].find?
        (FPWriter.covers n jc ltyc j) := rfl

/-! Which writer wins a row: the writers after it in program order are refuted one by one, each
    by its range (`2 ≤ n < 2^31` turns `_ysize - c` into `n - c`). -/
variable (hn : n < 2 ^ 31) (h2 : 2 ≤ n)
include hn h2

theorem fpWinner3_interior (h1 : 1 ≤ j) (hj : j + 2 ≤ n) :
    fpWinner 3 n jc ltyc j = some (.loop (.const 1) (.fromEnd 1) 1) := by
  rw [fpWinner3_list, List.find?_cons_of_neg, List.find?_cons_of_pos] <;>
    simp only [covers_row, covers_loop_fromEnd, pos_const, pos_fromEnd n jc 1 (by omega) hn] <;>
    omega

theorem fpWinner3_zero : fpWinner 3 n jc ltyc 0 = some (.row (.const 0) 0) := by
  rw [fpWinner3_list, List.find?_cons_of_neg, List.find?_cons_of_neg, List.find?_cons_of_pos] <;>
    simp only [covers_row, covers_loop_fromEnd, pos_const, pos_fromEnd n jc 1 (by omega) hn] <;>
    omega

theorem fpWinner3_last (hj : j + 1 = n) : fpWinner 3 n jc ltyc j = some (.row (.fromEnd 1) 2) := by
  rw [fpWinner3_list, List.find?_cons_of_pos]
  rw [covers_row, pos_fromEnd n jc 1 (by omega) hn]; omega

theorem fpWinner4_last (hj : j + 1 = n) : fpWinner 4 n jc ltyc j = some (.row (.fromEnd 1) 5) := by
  rw [fpWinner4_list, List.find?_cons_of_pos]
  rw [covers_row, pos_fromEnd n jc 1 (by omega) hn]; omega

theorem fpWinner4_last2 (hj : j + 2 = n) : fpWinner 4 n jc ltyc j = some (.row (.fromEnd 2) 4) := by
  rw [fpWinner4_list, List.find?_cons_of_neg, List.find?_cons_of_pos] <;>
    simp only [covers_row, pos_fromEnd n jc 1 (by omega) hn, pos_fromEnd n jc 2 h2 hn] <;> omega

theorem fpWinner4_hi (h1 : jc ≤ j) (hj : j + 3 ≤ n) :
    fpWinner 4 n jc ltyc j = some (.loop .truncYc (.fromEnd 2) 3) := by
  rw [fpWinner4_list, List.find?_cons_of_neg, List.find?_cons_of_neg, List.find?_cons_of_pos] <;>
    simp only [covers_row, covers_loop_fromEnd, pos_truncYc, pos_fromEnd n jc 1 (by omega) hn,
      pos_fromEnd n jc 2 h2 hn] <;> omega

theorem fpWinner4_lo (h0 : 2 ≤ j) (h1 : j < jc) (hj : j + 3 ≤ n) (hl : ltyc j = true) :
    fpWinner 4 n jc ltyc j = some (.loop (.const 2) .ltYc 2) := by
  rw [fpWinner4_list, List.find?_cons_of_neg, List.find?_cons_of_neg, List.find?_cons_of_neg,
    List.find?_cons_of_pos] <;>
    simp only [covers_row, covers_loop_fromEnd, covers_loop_ltYc, pos_const, pos_truncYc, hl, and_true,
      pos_fromEnd n jc 1 (by omega) hn, pos_fromEnd n jc 2 h2 hn] <;> omega

theorem fpWinner4_one (h1 : 1 < jc) (h4 : 4 ≤ n) :
    fpWinner 4 n jc ltyc 1 = some (.row (.const 1) 1) := by
  rw [fpWinner4_list, List.find?_cons_of_neg, List.find?_cons_of_neg, List.find?_cons_of_neg,
    List.find?_cons_of_neg, List.find?_cons_of_pos] <;>
    simp only [covers_row, covers_loop_fromEnd, covers_loop_ltYc, pos_const, pos_truncYc,
      pos_fromEnd n jc 1 (by omega) hn, pos_fromEnd n jc 2 h2 hn] <;> omega

theorem fpWinner4_zero (h1 : 0 < jc) (h3 : 3 ≤ n) :
    fpWinner 4 n jc ltyc 0 = some (.row (.const 0) 0) := by
  rw [fpWinner4_list, List.find?_cons_of_neg, List.find?_cons_of_neg, List.find?_cons_of_neg,
    List.find?_cons_of_neg, List.find?_cons_of_neg, List.find?_cons_of_pos] <;>
    simp only [covers_row, covers_loop_fromEnd, covers_loop_ltYc, pos_const, pos_truncYc,
      pos_fromEnd n jc 1 (by omega) hn, pos_fromEnd n jc 2 h2 hn] <;> omega

omit hn h2

/-- `j - 1` in `uint32` arithmetic, as the generated row bodies write it -/
def prevIdx (j : ℕ) : ℕ := (j + 4294967296 - 1) % 4294967296

omit n jc ltyc in
theorem prevIdx_pos (h1 : 1 ≤ j) (hj : j < 2 ^ 31) : prevIdx j = j - 1 :=
  wrap_sub h1 (hj.trans (by decide))

theorem prevIdx_zero : prevIdx 0 = 4294967295 := rfl

end winners

section stencil
variable {α : Type} [Field α]

/-- the damping and the diffusion decrement of Fokker–Planck type `ft`
    (0 none, 1 damping only, 2 diffusion only, 3 both) -/
def damp (ft : ℕ) (e1 : α) : α := if ft = 1 ∨ ft = 3 then e1 else 0
def diff (ft : ℕ) (e1 : α) : α := if ft = 2 ∨ ft = 3 then e1 else 0

theorem damp_mul (ft : ℕ) (e1 : α) : damp ft e1 = e1 * damp ft 1 := by
  unfold damp; split_ifs <;> simp

theorem diff_mul (ft : ℕ) (e1 : α) : diff ft e1 = e1 * diff ft 1 := by
  unfold diff; split_ifs <;> simp

/-- Weights of one table row on the sources `j-2 … j+2`: the identity, the damping term
    `a·(1 + pj·∂)` with the first-derivative stencil `c/(N·δ)`, and the diffusion term `b·∂²` with
    the second difference `(1, -2, 1)/δ²`; `pj` is the energy of the row.  The quotients are kept
    as the constructor computes them, so that the table equals these in every field. -/
def wRow (c : α × α × α × α × α) (N a b δ pj : α) : α × α × α × α × α :=
  (a / (N * δ) * c.1 * pj, a / (N * δ) * c.2.1 * pj + b / (δ * δ),
   1 + (a + a / (N * δ) * c.2.2.1 * pj) + -2 * (b / (δ * δ)),
   a / (N * δ) * c.2.2.2.1 * pj + b / (δ * δ), a / (N * δ) * c.2.2.2.2 * pj)

theorem wRow_zero (c : α × α × α × α × α) (N δ pj : α) : wRow c N 0 0 δ pj = (0, 0, 1, 0, 0) := by
  simp [wRow]

/-- the 3-point stencil, and the 4-point stencil below (`lo`) and from (`hi`) the switch row -/
def w3 (a b δ pj : α) := wRow (0, -1, 0, 1, 0) 2 a b δ pj
def w4lo (a b δ pj : α) := wRow (1, -6, 3, 2, 0) 6 a b δ pj
def w4hi (a b δ pj : α) := wRow (0, -2, -3, 6, -1) 6 a b δ pj

theorem grid_succ (pmin δ : α) (j : ℕ) : pmin + ((j + 1 : ℕ) : α) * δ = pmin + (j : α) * δ + δ := by
  push_cast; ring

theorem idx_sub (j c : ℕ) (hc : c ≤ j) (hj : j < 2 ^ 31) :
    (j + 4294967296 - c) % 4294967296 = j - c :=
  wrap_sub hc (hj.trans (by decide))

theorem idx_add (j c : ℕ) (hj : j + c < 2 ^ 32) : (j + c) % 4294967296 = j + c :=
  Nat.mod_eq_of_lt hj

/-- the rows written at the borders hold zeros -/
theorem fpBody_border (dt ft b : ℕ) (hft : ft = 0 ∨ ft = 1 ∨ ft = 2 ∨ ft = 3)
    (hb : dt = 3 ∧ (b = 0 ∨ b = 2) ∨ dt = 4 ∧ (b = 0 ∨ b = 1 ∨ b = 4 ∨ b = 5))
    (e1 δ : α) (p : ℕ → α) (j : ℕ) : fpBody dt ft b e1 δ p j = List.replicate dt (0, zero) := by
  rcases hft with rfl | rfl | rfl | rfl <;>
    rcases hb with ⟨rfl, rfl | rfl⟩ | ⟨rfl, rfl | rfl | rfl | rfl⟩ <;> rfl

theorem fpBody3_one (ft : ℕ) (hft : ft = 0 ∨ ft = 1 ∨ ft = 2 ∨ ft = 3)
    (e1 δ : α) (p : ℕ → α) (j : ℕ) (h1 : 1 ≤ j) (hj : j < 2 ^ 31) :
    let w := w3 (damp ft e1) (diff ft e1) δ (p j)
    fpBody 3 ft 1 e1 δ p j = [(j - 1, w.2.1), (j, w.2.2.1), (j + 1, w.2.2.2.1)] := by
  -- `rw [fpBody]` picks the one equation of the generated match where `simp only [fpBody]` tries all 61;
  -- the indices go first: `simp` does not come back from a goal with `_ % 4294967296` in it
  rcases hft with rfl | rfl | rfl | rfl <;> rw [fpBody, idx_sub j 1 h1 hj, idx_add j 1 (by omega)] <;>
    simp only [w3, wRow, damp, diff, lit_one, Int.cast_zero, Int.cast_one, Int.cast_ofNat, Int.cast_neg,
      zero_add, zero_div, neg_zero, zero_mul, add_zero, mul_zero, mul_one, mul_neg, neg_mul,
      if_true, if_false, Nat.reduceEqDiff, or_true, or_false, or_self]

theorem fpBody4_lo (ft : ℕ) (hft : ft = 0 ∨ ft = 1 ∨ ft = 2 ∨ ft = 3)
    (e1 δ : α) (p : ℕ → α) (j : ℕ) (h1 : 2 ≤ j) (hj : j < 2 ^ 31) :
    let w := w4lo (damp ft e1) (diff ft e1) δ (p j)
    fpBody 4 ft 2 e1 δ p j = [(j - 2, w.1), (j - 1, w.2.1), (j, w.2.2.1), (j + 1, w.2.2.2.1)] := by
  rcases hft with rfl | rfl | rfl | rfl <;>
    rw [fpBody, idx_sub j 2 h1 hj, idx_sub j 1 (by omega) hj, idx_add j 1 (by omega)] <;>
    simp only [w4lo, wRow, damp, diff, lit_one, Int.cast_zero, Int.cast_one, Int.cast_ofNat, Int.cast_neg,
      zero_add, zero_div, zero_mul, add_zero, mul_zero, if_true, if_false,
      Nat.reduceEqDiff, or_true, or_false, or_self]

theorem fpBody4_hi (ft : ℕ) (hft : ft = 0 ∨ ft = 1 ∨ ft = 2 ∨ ft = 3)
    (e1 δ : α) (p : ℕ → α) (j : ℕ) (hj : j < 2 ^ 31) :
    let w := w4hi (damp ft e1) (diff ft e1) δ (p j)
    fpBody 4 ft 3 e1 δ p j
      = [(prevIdx j, w.2.1), (j, w.2.2.1), (j + 1, w.2.2.2.1), (j + 2, w.2.2.2.2)] := by
  rcases hft with rfl | rfl | rfl | rfl <;>
    rw [fpBody, idx_add j 1 (by omega), idx_add j 2 (by omega)] <;>
    simp only [prevIdx, w4hi, wRow, damp, diff, lit_one, Int.cast_zero, Int.cast_one, Int.cast_ofNat, Int.cast_neg,
      zero_add, zero_div, zero_mul, add_zero, mul_zero, if_true, if_false,
      Nat.reduceEqDiff, or_true, or_false, or_self]

end stencil

section invalid
variable {α : Type} [Arith α]

theorem fpBody_invalid (dt ft b : ℕ) (h : 4 ≤ ft) (e1 δ : α) (p : ℕ → α) (j : ℕ) :
    fpBody dt ft b e1 δ p j = [] := by
  unfold fpBody
  split <;> first | rfl | (exfalso; omega)

theorem fpRowAt_invalid (dt ft n jc : ℕ) (ltyc : ℕ → Bool) (h : 4 ≤ ft) (e1 δ : α) (p : ℕ → α)
    (j : ℕ) : fpRowAt dt ft n jc ltyc e1 δ p j = [] := by
  unfold fpRowAt
  split
  · exact fpBody_invalid _ _ _ h _ _ _ _
  · rfl

theorem valid_or_ge (ft : ℕ) : (ft = 0 ∨ ft = 1 ∨ ft = 2 ∨ ft = 3) ∨ 4 ≤ ft := by omega
end invalid

section rows
variable {α : Type} [Field α] (ft n jc : ℕ) (ltyc : ℕ → Bool)
  (hft : ft = 0 ∨ ft = 1 ∨ ft = 2 ∨ ft = 3) (hn : n < 2 ^ 31) (e1 δ : α) (p : ℕ → α) (y : ℕ)
include hft hn

theorem fpRowAt3_border (h2 : 2 ≤ n) (hy : y = 0 ∨ y + 1 = n) :
    fpRowAt 3 ft n jc ltyc e1 δ p y = List.replicate 3 (0, zero) := by
  rcases hy with rfl | hy
  · rw [fpRowAt, fpWinner3_zero n jc ltyc hn h2]
    exact fpBody_border 3 ft 0 hft (by simp) e1 δ p 0
  · rw [fpRowAt, fpWinner3_last n jc ltyc y hn h2 hy]
    exact fpBody_border 3 ft 2 hft (by simp) e1 δ p y

theorem fpRowAt3_interior (h1 : 1 ≤ y) (h2 : y + 2 ≤ n) :
    let w := w3 (damp ft e1) (diff ft e1) δ (p y)
    fpRowAt 3 ft n jc ltyc e1 δ p y = [(y - 1, w.2.1), (y, w.2.2.1), (y + 1, w.2.2.2.1)] := by
  rw [fpRowAt, fpWinner3_interior n jc ltyc y hn (by omega) h1 h2]
  exact fpBody3_one ft hft e1 δ p y h1 (by omega)

/-- border rows of the 4-point table (rows 0, 1 below the switch row, rows n-2, n-1) -/
theorem fpRowAt4_border (h4 : 4 ≤ n) (hy : y < n) (hz : n ≤ y + 2 ∨ (y < 2 ∧ y < jc)) :
    fpRowAt 4 ft n jc ltyc e1 δ p y = List.replicate 4 (0, zero) := by
  have h2 : 2 ≤ n := by omega
  by_cases ha : y + 1 = n
  · rw [fpRowAt, fpWinner4_last n jc ltyc y hn h2 ha]
    exact fpBody_border 4 ft 5 hft (by simp) e1 δ p y
  by_cases hb : y + 2 = n
  · rw [fpRowAt, fpWinner4_last2 n jc ltyc y hn h2 hb]
    exact fpBody_border 4 ft 4 hft (by simp) e1 δ p y
  have hz' : y < 2 ∧ y < jc := by omega
  by_cases hc : y = 0
  · subst hc
    rw [fpRowAt, fpWinner4_zero n jc ltyc hn h2 hz'.2 (by omega)]
    exact fpBody_border 4 ft 0 hft (by simp) e1 δ p 0
  · obtain rfl : y = 1 := by omega
    rw [fpRowAt, fpWinner4_one n jc ltyc hn h2 hz'.2 h4]
    exact fpBody_border 4 ft 1 hft (by simp) e1 δ p 1

theorem fpRowAt4_lo (hsplit : ∀ j, j < jc → ltyc j = true) (h0 : 2 ≤ y) (h1 : y < jc)
    (h2 : y + 3 ≤ n) :
    let w := w4lo (damp ft e1) (diff ft e1) δ (p y)
    fpRowAt 4 ft n jc ltyc e1 δ p y
      = [(y - 2, w.1), (y - 1, w.2.1), (y, w.2.2.1), (y + 1, w.2.2.2.1)] := by
  rw [fpRowAt, fpWinner4_lo n jc ltyc y hn (by omega) h0 h1 h2 (hsplit y h1)]
  exact fpBody4_lo ft hft e1 δ p y h0 (by omega)

theorem fpRowAt4_hi (h1 : jc ≤ y) (h2 : y + 3 ≤ n) :
    let w := w4hi (damp ft e1) (diff ft e1) δ (p y)
    fpRowAt 4 ft n jc ltyc e1 δ p y
      = [(prevIdx y, w.2.1), (y, w.2.2.1), (y + 1, w.2.2.2.1), (y + 2, w.2.2.2.2)] := by
  rw [fpRowAt, fpWinner4_hi n jc ltyc y hn (by omega) h1 h2]
  exact fpBody4_hi ft hft e1 δ p y (by omega)

omit [Field α] hft hn in
/-- every row below `n` is of exactly one of the three kinds -/
theorem fp4_row_kind (_hy : y < n) :
    (n ≤ y + 2 ∨ (y < 2 ∧ y < jc)) ∨ (2 ≤ y ∧ y < jc ∧ y + 3 ≤ n) ∨ (jc ≤ y ∧ y + 3 ≤ n) := by
  omega

theorem fp3_indices (h3 : 3 ≤ n) (hy : y < n) :
    ∀ h ∈ fpRowAt 3 ft n jc ltyc e1 δ p y, h.1 < n := by
  by_cases hb : y = 0 ∨ y + 1 = n
  · rw [fpRowAt3_border ft n jc ltyc hft hn e1 δ p y (by omega) hb]
    intro h hh
    rw [List.eq_of_mem_replicate hh]; omega
  · rw [fpRowAt3_interior ft n jc ltyc hft hn e1 δ p y (by omega) (by omega)]
    simp only [List.forall_mem_cons, List.not_mem_nil, false_imp_iff, implies_true, and_true]
    omega

theorem fp4_indices (h4 : 4 ≤ n) (hjc : 1 ≤ jc) (hsplit : ∀ j, j < jc → ltyc j = true)
    (hy : y < n) : ∀ h ∈ fpRowAt 4 ft n jc ltyc e1 δ p y, h.1 < n := by
  rcases fp4_row_kind n jc y hy with hz | ⟨h0, h1, h2⟩ | ⟨h1, h2⟩
  · rw [fpRowAt4_border ft n jc ltyc hft hn e1 δ p y h4 hy hz]
    intro h hh
    rw [List.eq_of_mem_replicate hh]; omega
  · rw [fpRowAt4_lo ft n jc ltyc hft hn e1 δ p y hsplit h0 h1 h2]
    simp only [List.forall_mem_cons, List.not_mem_nil, false_imp_iff, implies_true, and_true]
    omega
  · rw [fpRowAt4_hi ft n jc ltyc hft hn e1 δ p y h1 h2, prevIdx_pos y (by omega) (by omega)]
    simp only [List.forall_mem_cons, List.not_mem_nil, false_imp_iff, implies_true, and_true]
    omega

/-- the whole 3-point table as a band: interior rows carry the stencil, border rows nothing -/
def row3 (n : ℕ) (a b δ : α) (p : ℕ → α) (y : ℕ) : α × α × α × α × α :=
  if 1 ≤ y ∧ y + 2 ≤ n then w3 a b δ (p y) else 0

/-- the whole 4-point table as a band -/
def row4 (n jc : ℕ) (a b δ : α) (p : ℕ → α) (y : ℕ) : α × α × α × α × α :=
  if n ≤ y + 2 ∨ (y < 2 ∧ y < jc) then 0
  else if y < jc then w4lo a b δ (p y) else w4hi a b δ (p y)

omit hft hn in
theorem bandEntry_zero (s : ℕ) : bandEntry (0 : α × α × α × α × α) y s = 0 := by
  simp [bandEntry]

variable (s : ℕ)

theorem fp3_entry (h2 : 2 ≤ n) (hy : y < n) :
    rowEntry (fpRowAt 3 ft n jc ltyc e1 δ p y) s
      = bandEntry (row3 n (damp ft e1) (diff ft e1) δ p y) y s := by
  unfold row3
  split_ifs with h
  · rw [fpRowAt3_interior ft n jc ltyc hft hn e1 δ p y h.1 h.2]
    have a : (y - 1 = s) = (y = s + 1) := propext (by omega)
    simp only [rowEntry_cons, rowEntry_nil, bandEntry, w3, wRow, a, mul_zero, zero_mul, ite_self,
      add_zero, zero_add, add_assoc]
  · rw [fpRowAt3_border ft n jc ltyc hft hn e1 δ p y h2 (by omega), rowEntry_replicate_zero,
      bandEntry_zero]

theorem fp4_entry (h4 : 4 ≤ n) (hsplit : ∀ j, j < jc → ltyc j = true) (hy : y < n) (hs : s < n) :
    rowEntry (fpRowAt 4 ft n jc ltyc e1 δ p y) s
      = bandEntry (row4 n jc (damp ft e1) (diff ft e1) δ p y) y s := by
  unfold row4
  split_ifs with hz h1
  · rw [fpRowAt4_border ft n jc ltyc hft hn e1 δ p y h4 hy hz, rowEntry_replicate_zero,
      bandEntry_zero]
  · rw [fpRowAt4_lo ft n jc ltyc hft hn e1 δ p y hsplit (by omega) h1 (by omega)]
    have a : (y - 2 = s) = (y = s + 2) := propext (by omega)
    have b : (y - 1 = s) = (y = s + 1) := propext (by omega)
    simp only [rowEntry_cons, rowEntry_nil, bandEntry, w4lo, wRow, a, b, mul_zero, zero_mul,
      ite_self, add_zero, add_assoc]
  · rw [fpRowAt4_hi ft n jc ltyc hft hn e1 δ p y (by omega) (by omega)]
    -- for `y = 0` (switch row 0) the first index is `2^32 - 1`, not a column of the table
    have a : (prevIdx y = s) = (y = s + 1) := propext (by
      by_cases h0 : y = 0
      · subst h0; rw [prevIdx_zero]; omega
      · rw [prevIdx_pos y (by omega) (by omega)]; omega)
    simp only [rowEntry_cons, rowEntry_nil, bandEntry, w4hi, wRow, a, mul_zero, zero_mul,
      ite_self, add_zero, zero_add, add_assoc]

end rows

section moments
variable {α : Type} [Field α]

/-- Column moments of a stencil on a uniform grid.  The column with energy `q = r + 2δ` takes the
    weight at offset `k` from row `s - k`, whose energy is `q - k·δ`.  The moments depend on the
    first-derivative stencil `c/(N·δ)` only through `Σ c_k k^m`, `m ≤ 3`: consistency (`0, N, 0`)
    gives the values of the continuum, the third moment `N·D` the `δ²` term. -/
theorem stencil_moments (c₁ c₂ c₃ c₄ c₅ N D a b δ r : α) (hN : N ≠ 0) (hδ : δ ≠ 0)
    (h0 : c₁ + c₂ + c₃ + c₄ + c₅ = 0) (h1 : -2 * c₁ - c₂ + c₄ + 2 * c₅ = N)
    (h2 : 4 * c₁ + c₂ + c₄ + 4 * c₅ = 0) (h3 : -8 * c₁ - c₂ + c₄ + 8 * c₅ = N * D) :
    let w := wRow (c₁, c₂, c₃, c₄, c₅) N a b δ
    let M := fun g : α → α => g (r + δ + δ + δ + δ) * (w (r + δ + δ + δ + δ)).1
      + g (r + δ + δ + δ) * (w (r + δ + δ + δ)).2.1 + g (r + δ + δ) * (w (r + δ + δ)).2.2.1
      + g (r + δ) * (w (r + δ)).2.2.2.1 + g r * (w r).2.2.2.2
    M (fun _ => 1) = 1 ∧ M id = (1 - a) * (r + δ + δ) ∧
      M (· ^ 2) = (1 - 2 * a) * (r + δ + δ) ^ 2 - a * δ ^ 2 * D + 2 * b := by
  have hu : a / (N * δ) * (N * δ) = a := div_mul_cancel₀ a (mul_ne_zero hN hδ)
  have hv : b / (δ * δ) * (δ * δ) = b := div_mul_cancel₀ b (mul_ne_zero hδ hδ)
  obtain ⟨q, rfl⟩ : ∃ q, r = q - δ - δ := ⟨r + δ + δ, by ring⟩
  simp only [wRow, id]
  generalize a / (N * δ) = u at hu ⊢
  generalize b / (δ * δ) = v at hv ⊢
  refine ⟨?_, ?_, ?_⟩
  · linear_combination (u * q) * h0 - (u * δ) * h1 - hu
  · linear_combination (u * q ^ 2) * h0 - (2 * u * q * δ) * h1 + (u * δ ^ 2) * h2 - (2 * q) * hu
  · linear_combination (u * q ^ 3) * h0 - (3 * u * q ^ 2 * δ) * h1 + (3 * u * q * δ ^ 2) * h2
      - (u * δ ^ 3) * h3 - (3 * q ^ 2 + δ ^ 2 * D) * hu + 2 * hv

theorem row3_interior (n : ℕ) (a b δ : α) (p : ℕ → α) (y : ℕ) (h1 : 1 ≤ y) (h2 : y + 2 ≤ n) :
    row3 n a b δ p y = w3 a b δ (p y) := if_pos ⟨h1, h2⟩

theorem row3_fst (n : ℕ) (a b δ : α) (p : ℕ → α) (y : ℕ) :
    (row3 n a b δ p y).1 = (w3 a b δ (p y)).1 := by
  unfold row3; split_ifs
  · rfl
  · show (0 : α) = a / (2 * δ) * 0 * p y; rw [mul_zero, zero_mul]

theorem row3_last (n : ℕ) (a b δ : α) (p : ℕ → α) (y : ℕ) :
    (row3 n a b δ p y).2.2.2.2 = (w3 a b δ (p y)).2.2.2.2 := by
  unfold row3; split_ifs
  · rfl
  · show (0 : α) = a / (2 * δ) * 0 * p y; rw [mul_zero, zero_mul]

theorem row4_lo (n jc : ℕ) (a b δ : α) (p : ℕ → α) (y : ℕ) (h0 : 2 ≤ y) (h1 : y < jc)
    (h2 : y + 3 ≤ n) : row4 n jc a b δ p y = w4lo a b δ (p y) := by
  unfold row4; rw [if_neg (by omega), if_pos h1]

theorem row4_hi (n jc : ℕ) (a b δ : α) (p : ℕ → α) (y : ℕ) (h1 : jc ≤ y) (h2 : y + 3 ≤ n) :
    row4 n jc a b δ p y = w4hi a b δ (p y) := by
  unfold row4; rw [if_neg (by omega), if_neg (by omega)]

theorem row4_last (n jc : ℕ) (a b δ : α) (p : ℕ → α) (y : ℕ) (h : y < jc) :
    (row4 n jc a b δ p y).2.2.2.2 = (w4lo a b δ (p y)).2.2.2.2 := by
  unfold row4; split_ifs
  · show (0 : α) = a / (6 * δ) * 0 * p y; rw [mul_zero, zero_mul]
  · rfl

theorem row4_fst (n jc : ℕ) (a b δ : α) (p : ℕ → α) (y : ℕ) (h : jc ≤ y) :
    (row4 n jc a b δ p y).1 = (w4hi a b δ (p y)).1 := by
  unfold row4; split_ifs
  · show (0 : α) = a / (6 * δ) * 0 * p y; rw [mul_zero, zero_mul]
  · omega
  · rfl

/-- Column moments `Σ_y g(y)·A[y][s]`, `g = 1, p, p²`, of an interior column of a table that is the
    3-point band for damping decrement `a` and diffusion decrement `b`, on a uniform energy grid. -/
theorem band3_col_moments (n : ℕ) (rowAt : ℕ → List (Hi α)) (a b δ : α) (hδ : δ ≠ 0)
    (h2 : (2 : α) ≠ 0) (p : ℕ → α) (hp : ∀ j, p (j + 1) = p j + δ) (s : ℕ) (hs : 2 ≤ s)
    (hs' : s + 3 ≤ n)
    (h : ∀ y, y < n → rowEntry (rowAt y) s = bandEntry (row3 n a b δ p y) y s) :
    let M := fun g : ℕ → α => ((List.range n).map fun y => g y * rowEntry (rowAt y) s).sum
    M (fun _ => 1) = 1 ∧ M p = (1 - a) * p s ∧
      M (fun y => p y ^ 2) = (1 - 2 * a) * p s ^ 2 - a * δ ^ 2 + 2 * b := by
  obtain ⟨t, rfl⟩ : ∃ t, s = t + 2 := ⟨s - 2, by omega⟩
  intro M
  simp only [M, colMoment_band n rowAt _ _ t (by omega) h, row3_fst, row3_last,
    row3_interior n a b δ _ _ (Nat.le_add_left 1 _) (show t + 3 + 2 ≤ n by omega),
    row3_interior n a b δ _ _ (Nat.le_add_left 1 _) (show t + 2 + 2 ≤ n by omega),
    row3_interior n a b δ _ _ (Nat.le_add_left 1 t) (show t + 1 + 2 ≤ n by omega),
    hp (t + 3), hp (t + 2), hp (t + 1), hp t]
  have := stencil_moments 0 (-1) 0 1 0 2 1 a b δ (p t) h2 hδ (by norm_num) (by norm_num)
    (by norm_num) (by norm_num)
  rwa [mul_one] at this

/-- The same for the 4-point band, columns away from the switch row and the border.  The second
    moment has no `δ²` term: the third moment of the one-sided stencil vanishes. -/
theorem band4_col_moments (n jc : ℕ) (rowAt : ℕ → List (Hi α)) (a b δ : α) (hδ : δ ≠ 0)
    (h6 : (6 : α) ≠ 0) (p : ℕ → α) (hp : ∀ j, p (j + 1) = p j + δ) (s : ℕ)
    (hs : (3 ≤ s ∧ s + 2 < jc ∧ s + 5 ≤ n) ∨ (jc + 2 ≤ s ∧ 4 ≤ s ∧ s + 4 ≤ n))
    (h : ∀ y, y < n → rowEntry (rowAt y) s = bandEntry (row4 n jc a b δ p y) y s) :
    let M := fun g : ℕ → α => ((List.range n).map fun y => g y * rowEntry (rowAt y) s).sum
    M (fun _ => 1) = 1 ∧ M p = (1 - a) * p s ∧
      M (fun y => p y ^ 2) = (1 - 2 * a) * p s ^ 2 + 2 * b := by
  obtain ⟨t, rfl⟩ : ∃ t, s = t + 2 := ⟨s - 2, by omega⟩
  intro M
  rcases hs with ⟨h1, h2, h3⟩ | ⟨h1, h2, h3⟩
  · simp only [M, colMoment_band n rowAt _ _ t (by omega) h,
      row4_last n jc a b δ _ t (by omega),
      row4_lo n jc a b δ _ (t + 4) (by omega) (by omega) (by omega),
      row4_lo n jc a b δ _ (t + 3) (by omega) (by omega) (by omega),
      row4_lo n jc a b δ _ (t + 2) (by omega) (by omega) (by omega),
      row4_lo n jc a b δ _ (t + 1) (by omega) (by omega) (by omega),
      hp (t + 3), hp (t + 2), hp (t + 1), hp t]
    have := stencil_moments 1 (-6) 3 2 0 6 0 a b δ (p t) h6 hδ (by norm_num) (by norm_num)
      (by norm_num) (by norm_num)
    rwa [mul_zero, sub_zero] at this
  · simp only [M, colMoment_band n rowAt _ _ t (by omega) h,
      row4_fst n jc a b δ _ (t + 4) (by omega),
      row4_hi n jc a b δ _ (t + 3) (by omega) (by omega),
      row4_hi n jc a b δ _ (t + 2) (by omega) (by omega),
      row4_hi n jc a b δ _ (t + 1) (by omega) (by omega),
      row4_hi n jc a b δ _ t (by omega) (by omega),
      hp (t + 3), hp (t + 2), hp (t + 1), hp t]
    have := stencil_moments 0 (-2) (-3) 6 (-1) 6 0 a b δ (p t) h6 hδ (by norm_num) (by norm_num)
      (by norm_num) (by norm_num)
    rwa [mul_zero, sub_zero] at this

end moments

section defect
variable {α : Type} [Field α]

/-- a row is affine in a common factor `e` of the two decrements, and the identity without them -/
theorem wRow_affine (c : α × α × α × α × α) (N e a b δ pj : α) :
    wRow c N (e * a) (e * b) δ pj
      = (0, 0, 1, 0, 0) + e • (wRow c N a b δ pj - (0, 0, 1, 0, 0)) := by
  simp only [wRow, Prod.mk_sub_mk, Prod.smul_mk, Prod.mk_add_mk, smul_eq_mul, Prod.mk.injEq]
  refine ⟨?_, ?_, ?_, ?_, ?_⟩ <;> ring

theorem row4_affine (n jc : ℕ) (e a b δ : α) (p : ℕ → α) (y : ℕ) :
    row4 n jc (e * a) (e * b) δ p y
      = row4 n jc 0 0 δ p y + e • (row4 n jc a b δ p y - row4 n jc 0 0 δ p y) := by
  unfold row4
  split_ifs
  · simp [Prod.zero_eq_mk, Prod.smul_mk]
  · simp only [w4lo, wRow_zero, wRow_affine]
  · simp only [w4hi, wRow_zero, wRow_affine]

/-- … and without decrements it is the identity on the rows that are not zeroed -/
theorem row4_zero (n jc : ℕ) (δ : α) (p : ℕ → α) (y : ℕ) :
    row4 n jc 0 0 δ p y = if n ≤ y + 2 ∨ (y < 2 ∧ y < jc) then 0 else (0, 0, 1, 0, 0) := by
  unfold row4
  split_ifs <;> simp only [w4lo, w4hi, wRow_zero]

/-- the column-sum defect of any non-border column of a 4-point band factors through a common
    factor of the decrements -/
theorem band4_colsum_defect (n jc : ℕ) (rowAt : α → ℕ → List (Hi α)) (a b δ : α) (p : ℕ → α)
    (s : ℕ) (hs2 : 2 ≤ s) (hs3 : s + 3 ≤ n)
    (h : ∀ e y, y < n →
      rowEntry (rowAt e y) s = bandEntry (row4 n jc (e * a) (e * b) δ p y) y s) :
    ∃ κ : α, ∀ e : α,
      ((List.range n).map fun y => (1 : α) * rowEntry (rowAt e y) s).sum - 1 = e * κ := by
  obtain ⟨t, rfl⟩ : ∃ t, s = t + 2 := ⟨s - 2, by omega⟩
  -- the column sum as a function of the band
  let L := fun W : ℕ → α × α × α × α × α => (W (t + 4)).1 + (W (t + 3)).2.1 + (W (t + 2)).2.2.1
    + (W (t + 1)).2.2.2.1 + (W t).2.2.2.2
  have h0 : L (row4 n jc 0 0 δ p) = 1 := by
    simp only [L, row4_zero, apply_ite Prod.fst, apply_ite Prod.snd, Prod.fst_zero, Prod.snd_zero,
      ite_self, if_neg (show ¬(n ≤ t + 2 + 2 ∨ t + 2 < 2 ∧ t + 2 < jc) by omega), zero_add, add_zero]
  refine ⟨L (row4 n jc a b δ p) - 1, fun e => ?_⟩
  rw [colMoment_band n (rowAt e) _ _ t (by omega) (h e)]
  simp only [L, row4_affine n jc e a b, Prod.fst_add, Prod.snd_add, Prod.smul_fst, Prod.smul_snd,
    Prod.fst_sub, Prod.snd_sub, smul_eq_mul] at h0 ⊢
  linear_combination (1 - e) * h0

end defect

section leak
variable {α : Type} [Field α]

/-- With switch row 0 the 4-point table reads outside the line: row 0 is written by the upper loop
    after it was zeroed and holds the index `0 - 1 = 2^32 - 1`.  Data that vanish on the whole line
    still produce the output `rd (2^32-1)` times that weight. -/
theorem fp4_jc0_line (ft n : ℕ) (ltyc : ℕ → Bool) (hft : ft = 0 ∨ ft = 1 ∨ ft = 2 ∨ ft = 3)
    (h4 : 4 ≤ n) (hn : n < 2 ^ 31) (e1 δ : α) (p rd : ℕ → α) (hr : ∀ s, s < n → rd s = 0) :
    ((List.range n).map fun y => fpCell (fpRowAt 4 ft n 0 ltyc e1 δ p y) rd).sum
      = rd 4294967295 * (w4hi (damp ft e1) (diff ft e1) δ (p 0)).2.1 := by
  have cell : ∀ y, y < n → fpCell (fpRowAt 4 ft n 0 ltyc e1 δ p y) rd
      = if y = 0 then rd 4294967295 * (w4hi (damp ft e1) (diff ft e1) δ (p 0)).2.1 else 0 := by
    intro y hy
    rcases fp4_row_kind n 0 y hy with hz | ⟨_, h1, _⟩ | ⟨h1, h2⟩
    · rw [fpRowAt4_border ft n 0 ltyc hft hn e1 δ p y h4 hy hz, fpCell_eq, if_neg (by omega)]
      simp [zero_field]
    · omega
    · rw [fpRowAt4_hi ft n 0 ltyc hft hn e1 δ p y h1 h2, fpCell_eq]
      simp only [List.map_cons, List.map_nil, List.sum_cons, List.sum_nil, add_zero]
      rw [hr y hy, hr (y + 1) (by omega), hr (y + 2) (by omega)]
      by_cases h0 : y = 0
      · subst h0; rw [prevIdx_zero]; simp
      · rw [prevIdx_pos y (by omega) (by omega), hr _ (by omega), if_neg h0]; simp
  rw [sum_map_range, Finset.sum_congr rfl fun y hy => cell y (Finset.mem_range.mp hy),
    Finset.sum_ite_eq' (Finset.range n) 0, if_pos (Finset.mem_range.mpr (by omega))]

theorem fp4_jc0_leak :
    ∃ rd : ℕ → α, (∀ s, s < 8 → rd s = 0) ∧
      ((List.range 8).map fun y =>
        fpCell (fpRowAt 4 2 8 0 (fun _ => false) (1 : α) 1 (fun j => 0 + (j : α) * 1) y) rd).sum
        = 1 := by
  refine ⟨fun s => if s = 4294967295 then 1 else 0, fun s hs => if_neg (by omega), ?_⟩
  rw [fp4_jc0_line 2 8 _ (by simp) (by norm_num) (by norm_num) _ _ _ _ fun s hs => if_neg (by omega)]
  simp [w4hi, wRow, damp, diff]

end leak

end Inovesa
