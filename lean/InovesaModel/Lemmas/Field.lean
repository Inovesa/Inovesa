/-
  Interpretation of the abstract scalar in a field (the real-arithmetic semantics of
  the C++ floating-point code, DESIGN.md §3): a literal means its ideal rational value.
-/
import InovesaModel.Model.Scalar
import Mathlib.Algebra.Field.Basic
import Mathlib.Algebra.CharZero.Defs
import Mathlib.Tactic.Ring
import Mathlib.Tactic.FieldSimp
import Mathlib.Tactic.NormNum

namespace Inovesa

/-- In a field a literal is `num / den`. -/
instance (priority := low) fieldLit {α : Type} [Field α] : Lit α :=
  ⟨fun n d _ => (n : α) / (d : α)⟩

@[simp] theorem lit_field {α : Type} [Field α] (n : Int) (d : Nat) (b : UInt32) :
    (lit n d b : α) = (n : α) / (d : α) := rfl

/-- an integer literal means that integer -/
@[simp high] theorem lit_one {α : Type} [Field α] (n : Int) (b : UInt32) : (lit n 1 b : α) = n := by
  rw [lit_field, Nat.cast_one, div_one]

/-- on `ℚ` the executable literal instance (`mkRat`) and the field reading agree, so
    statements elaborated with either instance can be transported -/
theorem ratLit_eq_fieldLit : (instLitRat : Lit ℚ) = fieldLit := by
  unfold instLitRat fieldLit
  congr
  funext n d _
  exact Rat.mkRat_eq_div n d

/-! ### `std::min`, `std::max` and the clamp, as the code compares -/
section Clamp
variable {α : Type} [LinearOrder α]

theorem ite_lt_eq_min (a b : α) : (if b < a then b else a) = min a b := by
  rcases lt_or_ge b a with h | h
  · rw [if_pos h, min_eq_right h.le]
  · rw [if_neg h.not_gt, min_eq_left h]

theorem ite_lt_eq_max (a b : α) : (if a < b then b else a) = max a b := by
  rcases lt_or_ge a b with h | h
  · rw [if_pos h, max_eq_right h.le]
  · rw [if_neg h.not_gt, max_eq_left h]

theorem clamp_mem {lo hi : α} (h : lo ≤ hi) (x : α) :
    lo ≤ max lo (min x hi) ∧ max lo (min x hi) ≤ hi :=
  ⟨le_max_left _ _, max_le h (min_le_right _ _)⟩

theorem clamp_id {lo hi x : α} (h1 : lo ≤ x) (h2 : x ≤ hi) : max lo (min x hi) = x := by
  rw [min_eq_left h2, max_eq_right h1]

end Clamp

end Inovesa
