/- helper lemma for C03: the trace of the step matrix -/
import Mathlib.Data.Real.Basic
import Mathlib.Tactic.Linarith
import Mathlib.Tactic.Ring
import Mathlib.Tactic.FieldSimp
namespace Inovesa

/-! ### trace of the step matrix vs. rotation -/

/-- Pure algebra, from the Taylor enclosures of `c = cos θ` and `s = sin θ`.  With the remainders
    `e₁ = c − (1 − θ²/2)`, `e₂ = s − (θ − θ³/6)` one has
    `(2 − θ·s/c − 2c)·c = −θ⁴/3 − 2·e₁·(c − θ²/2) − θ·e₂`, where `c − θ²/2 ∈ [0, 1]` and `c ≥ 1/2`;
    the three terms are bounded one by one and the rest is linear. -/
theorem trace_close_alg (θ c s : ℝ) (h0 : 0 ≤ θ) (h1 : θ ≤ 1 / 2)
    (hc : |c - (1 - θ ^ 2 / 2)| ≤ θ ^ 4 * (5 / 96))
    (hs : |s - (θ - θ ^ 3 / 6)| ≤ θ ^ 5 / 100) :
    |2 - θ * (s / c) - 2 * c| ≤ θ ^ 4 := by
  have hu0 : 0 ≤ θ ^ 2 := sq_nonneg θ
  have hu : θ ^ 2 ≤ 1 / 4 := by
    have := mul_le_mul h1 h1 h0 (by norm_num : (0:ℝ) ≤ 1 / 2)
    linarith
  have h4 : θ ^ 4 = θ ^ 2 * θ ^ 2 := by ring
  have h40 : 0 ≤ θ ^ 4 := h4 ▸ mul_nonneg hu0 hu0
  have h42 : θ ^ 4 ≤ θ ^ 2 * (1 / 4) := h4 ▸ mul_le_mul_of_nonneg_left hu hu0
  obtain ⟨hc1, hc2⟩ := abs_le.mp hc
  obtain ⟨hs1, hs2⟩ := abs_le.mp hs
  have hc' : 1 / 2 ≤ c := by linarith
  have hf0 : 0 ≤ c - θ ^ 2 / 2 := by linarith
  have hf1 : c - θ ^ 2 / 2 ≤ 1 := by linarith
  have hA1 := mul_le_mul_of_nonneg_right hc1 hf0
  have hA2 := mul_le_mul_of_nonneg_right hc2 hf0
  have hA3 := mul_le_mul_of_nonneg_left hf1 (mul_nonneg h40 (by norm_num : (0:ℝ) ≤ 5 / 96))
  have hB1 := mul_le_mul_of_nonneg_left hs1 h0
  have hB2 := mul_le_mul_of_nonneg_left hs2 h0
  have hB3 : θ * (θ ^ 5 / 100) = θ ^ 4 * θ ^ 2 / 100 := by ring
  have hB4 := mul_le_mul_of_nonneg_left hu h40
  have hC := mul_le_mul_of_nonneg_left hc' h40
  have hcpos : 0 < c := by linarith
  have hX : (2 - θ * (s / c) - 2 * c) * c
      = -(θ ^ 4 / 3) - 2 * ((c - (1 - θ ^ 2 / 2)) * (c - θ ^ 2 / 2)) - θ * (s - (θ - θ ^ 3 / 6)) := by
    field_simp
    ring
  rw [abs_le]
  constructor
  · refine le_of_mul_le_mul_right ?_ hcpos
    rw [hX]; linarith only [hA2, hA3, hB2, hB3, hB4, hC, h40]
  · refine le_of_mul_le_mul_right ?_ hcpos
    rw [hX]; linarith only [hA1, hA3, hB1, hB3, hB4, hC, h40]

end Inovesa
