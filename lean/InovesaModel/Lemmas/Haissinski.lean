/- helper lemmas for C05 (Haissinski equilibrium): the calculus behind the Haissinski relation -/
import Mathlib.Analysis.SpecialFunctions.ExpDeriv
import Mathlib.Analysis.SpecialFunctions.Log.Deriv
import Mathlib.Analysis.Calculus.MeanValue
namespace Inovesa

/-! ### calculus -/
section calculus
open Real

theorem hasDerivAt_half_sq (q : ℝ) : HasDerivAt (fun q : ℝ => q ^ 2 / 2) q q := by
  simpa using (hasDerivAt_pow 2 q).div_const 2

/-- derivative of the unit Gaussian `exp (−p²/2)` -/
theorem hasDerivAt_unitGauss (p : ℝ) :
    HasDerivAt (fun p : ℝ => exp (-(p ^ 2) / 2)) (-p * exp (-(p ^ 2) / 2)) p := by
  simpa only [Pi.neg_apply, neg_div, mul_comm] using (hasDerivAt_half_sq p).neg.exp

/-- a function with derivative zero everywhere takes the same value at any two points -/
theorem eq_of_hasDerivAt_zero (f : ℝ → ℝ) (hf : ∀ x, HasDerivAt f 0 x) (a b : ℝ) : f a = f b :=
  is_const_of_deriv_eq_zero (fun x => (hf x).differentiableAt) (fun x => (hf x).deriv) a b

/-- `ln ρ + q²/2 − G` has derivative zero when `ρ' = −(q − F)ρ`, `G' = F`, `ρ ≠ 0` -/
theorem hasDerivAt_haissinski (ρ F G : ℝ → ℝ) (q : ℝ) (hne : ρ q ≠ 0)
    (hρ : HasDerivAt ρ (-(q - F q) * ρ q) q) (hG : HasDerivAt G (F q) q) :
    HasDerivAt (fun q => log (ρ q) + q ^ 2 / 2 - G q) 0 q := by
  exact (((hρ.log hne).add (hasDerivAt_half_sq q)).sub hG).congr_deriv (by field_simp; ring)

end calculus

end Inovesa
