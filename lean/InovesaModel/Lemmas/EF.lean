/- helper lemmas about the ElectricField model (field interpretation) -/
import InovesaModel.Model.ElectricField
import InovesaModel.Lemmas.Sums
import Mathlib.Algebra.Order.Field.Basic
import Mathlib.Algebra.Order.BigOperators.Group.Finset
import Mathlib.Tactic.LinearCombination
namespace Inovesa

section basics
variable {α : Type} [Field α]

@[simp] theorem ef_czero : (Cx.czero : Cx α) = ((0 : α), (0 : α)) := by simp [Cx.czero]

end basics

/-! ### the operations in closed form -/
section machine
variable {α : Type} [Field α]

/-- the input buffer handed to the complex-to-real transform by `efWake` -/
def wakeIn (c : EFConst α) (t : Transforms α) (prof : Nat → Nat → α) (s : EFState α) : Nat → Cx α :=
  fun k => if k < c.nmax / 2 then
      Cx.mul (c.z k) (if k ≤ c.nmax / 2 then t.r2c (padProfiles c prof) k else s.ff k)
    else s.wl k

theorem efWake_eq (c : EFConst α) (t : Transforms α) (prof : Nat → Nat → α) (s : EFState α) :
    efWake c t prof s =
      { bp := padProfiles c prof
        ff := fun k => if k ≤ c.nmax / 2 then t.r2c (padProfiles c prof) k else s.ff k
        wl := t.clob (wakeIn c t prof s)
        wp := t.c2r (wakeIn c t prof s)
        wake := fun b x => c.wakescaling * t.c2r (wakeIn c t prof s) (c.bucket b * c.spacing + x)
        spec := s.spec
        pow := s.pow } := rfl

/-- the old state enters only through `wl` from `nmax/2` on -/
theorem wakeIn_eq (c : EFConst α) (t : Transforms α) (prof : Nat → Nat → α) (s : EFState α) :
    wakeIn c t prof s = fun k => if k < c.nmax / 2 then
      Cx.mul (c.z k) (t.r2c (padProfiles c prof) k) else s.wl k := by
  funext k
  unfold wakeIn
  by_cases hk : k < c.nmax / 2
  · simp [hk, Nat.le_of_lt hk]
  · simp [hk]

theorem wakeIn_congr (c : EFConst α) (t : Transforms α) (prof : Nat → Nat → α) (s s' : EFState α)
    (hwl : ∀ k, c.nmax / 2 ≤ k → s.wl k = s'.wl k) :
    wakeIn c t prof s = wakeIn c t prof s' := by
  rw [wakeIn_eq, wakeIn_eq]
  funext k
  by_cases hk : k < c.nmax / 2
  · simp [hk]
  · simp [hk, hwl k (Nat.le_of_not_lt hk)]

/-- cleared buffer with the profile of bunch `b` at its start -/
def csrBuf (c : EFConst α) (prof : Nat → Nat → α) (b : Nat) : Nat → α :=
  fun i => if i < c.n then prof b i else zero

/-- form factor buffer after the forward transform of bunch `b`, `ff0` = earlier contents -/
def csrFF (c : EFConst α) (t : Transforms α) (prof : Nat → Nat → α) (ff0 : Nat → Cx α) (b : Nat) :
    Nat → Cx α :=
  fun k => if k ≤ c.nmax / 2 then t.r2c (csrBuf c prof b) k else ff0 k

/-- spectrum and power that `updateCSR` computes from a form factor buffer `ff` -/
def specOf (c : EFConst α) (ff : Nat → Cx α) (i : Nat) : α := c.renorm i * (c.z i).1 * Cx.norm (ff i)

def powOf (c : EFConst α) (ff : Nat → Cx α) : α :=
  (List.range c.nmax).foldl (fun acc i => acc + c.dfreq * specOf c ff i) zero

theorem efCSRBunch_eq (c : EFConst α) (t : Transforms α) (prof : Nat → Nat → α) (s : EFState α)
    (b : Nat) :
    efCSRBunch c t prof s b =
      { bp := csrBuf c prof b
        ff := csrFF c t prof s.ff b
        wl := s.wl
        wp := s.wp
        wake := s.wake
        spec := fun b' i => if b' = b then specOf c (csrFF c t prof s.ff b) i else s.spec b' i
        pow := fun b' => if b' = b then powOf c (csrFF c t prof s.ff b) else s.pow b' } := rfl

/-- `csrFF` depends on the earlier contents only above `nmax/2` -/
theorem csrFF_congr (c : EFConst α) (t : Transforms α) (prof : Nat → Nat → α) (f g : Nat → Cx α)
    (h : ∀ k, c.nmax / 2 < k → f k = g k) (b : Nat) :
    csrFF c t prof f b = csrFF c t prof g b := by
  funext k
  unfold csrFF
  by_cases hk : k ≤ c.nmax / 2
  · simp [hk]
  · simp [hk, h k (Nat.lt_of_not_le hk)]

/-- the state after the first `n` bunches of `updateCSR` -/
theorem csr_fold (c : EFConst α) (t : Transforms α) (prof : Nat → Nat → α) (s : EFState α) (n : Nat) :
    (∀ k, c.nmax / 2 < k → ((List.range n).foldl (efCSRBunch c t prof) s).ff k = s.ff k) ∧
    ((List.range n).foldl (efCSRBunch c t prof) s).wl = s.wl ∧
    (∀ b, b < n → ((List.range n).foldl (efCSRBunch c t prof) s).spec b
        = specOf c (csrFF c t prof s.ff b)) ∧
    (∀ b, b < n → ((List.range n).foldl (efCSRBunch c t prof) s).pow b = powOf c (csrFF c t prof s.ff b)) ∧
    (0 < n → ((List.range n).foldl (efCSRBunch c t prof) s).bp = csrBuf c prof (n - 1)) := by
  induction n with
  | zero => exact ⟨fun _ _ => rfl, rfl, fun _ hb => absurd hb (Nat.not_lt_zero _),
      fun _ hb => absurd hb (Nat.not_lt_zero _), fun h => absurd h (Nat.lt_irrefl _)⟩
  | succ n ih =>
    obtain ⟨ihff, ihwl, ihspec, ihpow, _⟩ := ih
    rw [List.range_succ, List.foldl_append, List.foldl_cons, List.foldl_nil, efCSRBunch_eq]
    -- the new bunch sees the earlier form factors only above `nmax/2`, where they are still those of `s`
    have hn := csrFF_congr c t prof _ s.ff ihff n
    refine ⟨fun k hk => ?_, ihwl, fun b hb => ?_, fun b hb => ?_, fun _ => rfl⟩
    · rw [hn]
      exact if_neg (Nat.not_le_of_gt hk)
    · funext i
      show (if b = n then _ else _) = _
      split
      · next h => rw [hn, h]
      · next h => exact congrFun (ihspec b (by omega)) i
    · show (if b = n then _ else _) = _
      split
      · next h => rw [hn, h]
      · next h => exact ihpow b (by omega)

theorem efCSR_spec (c : EFConst α) (t : Transforms α) (prof : Nat → Nat → α) (s : EFState α)
    (b : Nat) (hb : b < c.nb) (i : Nat) :
    (efCSR c t prof s).spec b i = specOf c (csrFF c t prof s.ff b) i :=
  congrFun ((csr_fold c t prof s c.nb).2.2.1 b hb) i

theorem efCSR_pow (c : EFConst α) (t : Transforms α) (prof : Nat → Nat → α) (s : EFState α)
    (b : Nat) (hb : b < c.nb) :
    (efCSR c t prof s).pow b = powOf c (csrFF c t prof s.ff b) :=
  (csr_fold c t prof s c.nb).2.2.2.1 b hb

theorem efCSR_bp (c : EFConst α) (t : Transforms α) (prof : Nat → Nat → α) (s : EFState α)
    (hnb : 0 < c.nb) : (efCSR c t prof s).bp = csrBuf c prof (c.nb - 1) :=
  (csr_fold c t prof s c.nb).2.2.2.2 hnb

end machine

/-! ### the reference transforms as sums -/
section sums
variable {α : Type} [Field α]

theorem cx_foldl_add {ι : Type} (g : ι → Cx α) (l : List ι) (a : Cx α) :
    l.foldl (fun acc i => Cx.add acc (g i)) a
      = (a.1 + (l.map fun i => (g i).1).sum, a.2 + (l.map fun i => (g i).2).sum) := by
  induction l generalizing a with
  | nil => simp
  | cons x xs ih =>
    rw [List.foldl_cons, ih]
    simp [Cx.add, add_assoc]

theorem dftNaive_fst (N : Nat) (tw : Nat → Cx α) (rho : Nat → α) (k : Nat) :
    (dftNaive N tw rho k).1 = ∑ x ∈ Finset.range N, rho x * (tw (k * x % N)).1 := by
  unfold dftNaive
  rw [cx_foldl_add]
  simp [Cx.smul, sum_map_range]

theorem dftNaive_snd (N : Nat) (tw : Nat → Cx α) (rho : Nat → α) (k : Nat) :
    (dftNaive N tw rho k).2 = ∑ x ∈ Finset.range N, rho x * (tw (k * x % N)).2 := by
  unfold dftNaive
  rw [cx_foldl_add]
  simp [Cx.smul, sum_map_range]

/-- Nyquist summand of `c2rNaive` -/
def nyqTerm (N : Nat) (xs : Nat → Cx α) (x : Nat) : α :=
  if N % 2 = 0 ∧ 0 < N then (if x % 2 = 0 then (xs (N / 2)).1 else -(xs (N / 2)).1) else 0

theorem nyqTerm_zero (N : Nat) (xs : Nat → Cx α) (h : xs (N / 2) = ((0 : α), (0 : α))) (x : Nat) :
    nyqTerm N xs x = 0 := by
  simp [nyqTerm, h]

theorem c2rNaive_eq (N : Nat) (tw : Nat → Cx α) (xs : Nat → Cx α) (x : Nat) :
    c2rNaive N tw (2 : α) xs x
      = (xs 0).1
        + (∑ k' ∈ Finset.range ((N + 1) / 2 - 1),
            2 * ((xs (k' + 1)).1 * (tw ((k' + 1) * x % N)).1
               + (xs (k' + 1)).2 * (tw ((k' + 1) * x % N)).2))
        + nyqTerm N xs x := by
  show (xs 0).1 + (List.range ((N + 1) / 2 - 1)).foldl (fun acc k' =>
      acc + 2 * (Cx.mul (xs (k' + 1)) (Cx.conj (tw ((k' + 1) * x % N)))).1) zero
      + (if N % 2 = 0 ∧ 0 < N then (if x % 2 = 0 then (xs (N / 2)).1 else -(xs (N / 2)).1) else zero) = _
  rw [foldl_range_zero]
  simp [Cx.mul, Cx.conj, nyqTerm]

/-- the loss spectrum `efWake` hands to the inverse transform from a reachable state: `Z·F` below Nyquist, zero from there on -/
def lossOf (N : Nat) (z F : Nat → Cx α) : Nat → Cx α :=
  fun k => if k < N / 2 then Cx.mul (z k) (F k) else ((0 : α), (0 : α))

theorem lossOf_nyq (N : Nat) (z F : Nat → Cx α) : lossOf N z F (N / 2) = ((0 : α), (0 : α)) :=
  if_neg (Nat.lt_irrefl _)

end sums

/-! ### sign of spectrum and power -/
section order
variable {α : Type} [Field α]

theorem powOf_eq_finsum (c : EFConst α) (ff : Nat → Cx α) :
    powOf c ff = ∑ i ∈ Finset.range c.nmax, c.dfreq * specOf c ff i :=
  foldl_range_zero _ _

theorem specOf_cutoff (c : EFConst α) (ff : Nat → Cx α) (f : Nat → α) (i : Nat) :
    specOf { c with renorm := fun i => c.renorm i * f i } ff i = f i * specOf c ff i := by
  simp only [specOf]
  ring

variable [LinearOrder α] [IsStrictOrderedRing α]

theorem cx_norm_nonneg (a : Cx α) : 0 ≤ Cx.norm a :=
  add_nonneg (mul_self_nonneg _) (mul_self_nonneg _)

theorem specOf_nonneg (c : EFConst α) (ff : Nat → Cx α) (hz : ∀ i, 0 ≤ (c.z i).1) (hr : ∀ i, 0 ≤ c.renorm i)
    (i : Nat) : 0 ≤ specOf c ff i :=
  mul_nonneg (mul_nonneg (hr i) (hz i)) (cx_norm_nonneg _)

theorem powOf_nonneg (c : EFConst α) (ff : Nat → Cx α) (hz : ∀ i, 0 ≤ (c.z i).1) (hr : ∀ i, 0 ≤ c.renorm i)
    (hd : 0 ≤ c.dfreq) : 0 ≤ powOf c ff := by
  rw [powOf_eq_finsum]
  exact Finset.sum_nonneg fun i _ => mul_nonneg hd (specOf_nonneg c ff hz hr i)

end order

/-! ### pairing of a profile with an inverse transform -/
section parseval
variable {α : Type} [Field α]

/-- pairing of a profile with the inverse transform of an arbitrary half spectrum -/
theorem pairing_general (N : Nat) (tw : Nat → Cx α) (xs : Nat → Cx α) (rho : Nat → α) :
    ∑ x ∈ Finset.range N, rho x * c2rNaive N tw (2 : α) xs x
      = (xs 0).1 * ∑ x ∈ Finset.range N, rho x
        + ∑ k' ∈ Finset.range ((N + 1) / 2 - 1),
            2 * ((xs (k' + 1)).1 * (dftNaive N tw rho (k' + 1)).1
               + (xs (k' + 1)).2 * (dftNaive N tw rho (k' + 1)).2)
        + ∑ x ∈ Finset.range N, rho x * nyqTerm N xs x := by
  simp only [c2rNaive_eq, mul_add, Finset.sum_add_distrib, Finset.mul_sum, dftNaive_fst, dftNaive_snd]
  congr 2
  · exact Finset.sum_congr rfl fun x _ => mul_comm ..
  · congr 1 <;>
    · rw [Finset.sum_comm]
      exact Finset.sum_congr rfl fun k _ => Finset.sum_congr rfl fun x _ => by ring

theorem dftNaive_zero (N : Nat) (tw : Nat → Cx α) (rho : Nat → α)
    (htw0 : tw 0 = ((1 : α), (0 : α))) :
    dftNaive N tw rho 0 = (∑ x ∈ Finset.range N, rho x, 0) := by
  apply Prod.ext
  · rw [dftNaive_fst]; simp [htw0]
  · rw [dftNaive_snd]; simp [htw0]

end parseval

/-! ### padding and linearity -/
section wake
variable {α : Type} [Field α]

/-- padded buffer after the first `n` bunches -/
def padFold (c : EFConst α) (prof : Nat → Nat → α) (n : Nat) : Nat → α :=
  (List.range n).foldl (fun (buf : Nat → α) b => fun i =>
      let o := c.bucket b * c.spacing
      if o ≤ i ∧ i < o + c.n then prof b (i - o) else buf i) (fun _ => zero)

theorem padProfiles_eq (c : EFConst α) (prof : Nat → Nat → α) :
    padProfiles c prof = padFold c prof c.nb := rfl

theorem padFold_zero (c : EFConst α) (prof : Nat → Nat → α) (i : Nat) :
    padFold c prof 0 i = 0 := by
  simp [padFold]

theorem padFold_succ (c : EFConst α) (prof : Nat → Nat → α) (n i : Nat) :
    padFold c prof (n + 1) i
      = if c.bucket n * c.spacing ≤ i ∧ i < c.bucket n * c.spacing + c.n
        then prof n (i - c.bucket n * c.spacing) else padFold c prof n i := by
  unfold padFold
  rw [List.range_succ, List.foldl_append]
  rfl

theorem padFold_inside (c : EFConst α) (prof : Nat → Nat → α)
    (hdisj : ∀ b b', b < c.nb → b' < c.nb → b ≠ b' →
      c.bucket b * c.spacing + c.n ≤ c.bucket b' * c.spacing ∨
      c.bucket b' * c.spacing + c.n ≤ c.bucket b * c.spacing)
    (n : Nat) (hn : n ≤ c.nb) (b x : Nat) (hb : b < n) (hx : x < c.n) :
    padFold c prof n (c.bucket b * c.spacing + x) = prof b x := by
  induction n with
  | zero => exact absurd hb (Nat.not_lt_zero _)
  | succ n ih =>
    rw [padFold_succ]
    by_cases hbn : b = n
    · subst hbn
      rw [if_pos ⟨Nat.le_add_right _ _, Nat.add_lt_add_left hx _⟩, Nat.add_sub_cancel_left]
    · have hbn' : b < n := Nat.lt_of_le_of_ne (Nat.le_of_lt_succ hb) hbn
      have hd := hdisj b n (by omega) (by omega) hbn
      rw [if_neg (by omega)]
      exact ih (by omega) hbn'

theorem padFold_outside (c : EFConst α) (prof : Nat → Nat → α) (n : Nat) (i : Nat)
    (h : ∀ b, b < n → ¬ (c.bucket b * c.spacing ≤ i ∧ i < c.bucket b * c.spacing + c.n)) :
    padFold c prof n i = 0 := by
  induction n with
  | zero => exact padFold_zero c prof i
  | succ n ih =>
    rw [padFold_succ, if_neg (h n (Nat.lt_succ_self n))]
    exact ih fun b hb => h b (Nat.lt_succ_of_lt hb)

theorem padFold_linear (c : EFConst α) (p q : Nat → Nat → α) (a : α) (n i : Nat) :
    padFold c (fun b x => a * p b x + q b x) n i = a * padFold c p n i + padFold c q n i := by
  induction n with
  | zero => simp [padFold_zero]
  | succ n ih =>
    rw [padFold_succ, padFold_succ, padFold_succ]
    split_ifs
    · rfl
    · exact ih

theorem dftNaive_linear (N : Nat) (tw : Nat → Cx α) (r1 r2 : Nat → α) (a : α) (k : Nat) :
    dftNaive N tw (fun i => a * r1 i + r2 i) k
      = (a * (dftNaive N tw r1 k).1 + (dftNaive N tw r2 k).1,
         a * (dftNaive N tw r1 k).2 + (dftNaive N tw r2 k).2) := by
  apply Prod.ext
  · simp only [dftNaive_fst, Finset.mul_sum, ← Finset.sum_add_distrib]
    exact Finset.sum_congr rfl fun x _ => by ring
  · simp only [dftNaive_snd, Finset.mul_sum, ← Finset.sum_add_distrib]
    exact Finset.sum_congr rfl fun x _ => by ring

theorem lossOf_linear (N : Nat) (z F G H : Nat → Cx α) (a : α)
    (h : ∀ k, F k = (a * (G k).1 + (H k).1, a * (G k).2 + (H k).2)) (k : Nat) :
    lossOf N z F k = (a * (lossOf N z G k).1 + (lossOf N z H k).1,
                      a * (lossOf N z G k).2 + (lossOf N z H k).2) := by
  unfold lossOf
  split
  · rw [h]; apply Prod.ext <;> simp only [Cx.mul] <;> ring
  · apply Prod.ext <;> simp

theorem c2rNaive_linear (N : Nat) (tw : Nat → Cx α) (xs ys zs : Nat → Cx α) (a : α)
    (hxs : ∀ k, xs k = (a * (ys k).1 + (zs k).1, a * (ys k).2 + (zs k).2)) (x : Nat) :
    c2rNaive N tw (2 : α) xs x = a * c2rNaive N tw 2 ys x + c2rNaive N tw 2 zs x := by
  have nyq : nyqTerm N xs x = a * nyqTerm N ys x + nyqTerm N zs x := by
    unfold nyqTerm
    rw [hxs]
    split_ifs <;> ring
  rw [c2rNaive_eq, c2rNaive_eq, c2rNaive_eq, nyq, hxs 0]
  conv_rhs => rw [mul_add, mul_add, Finset.mul_sum, add_add_add_comm, add_add_add_comm (a * _), ← Finset.sum_add_distrib]
  congr 2
  exact Finset.sum_congr rfl fun k _ => by rw [hxs]; ring

end wake

/-! ### cyclic shift -/
section shift
variable {α : Type} [Field α]

theorem shift_inv1 (N d i : Nat) (hd : d < N) (hi : i < N) : ((i + N - d) % N + d) % N = i := by
  rw [Nat.mod_add_mod, Nat.sub_add_cancel (by omega), Nat.add_mod_right, Nat.mod_eq_of_lt hi]

theorem shift_inv2 (N d j : Nat) (hd : d < N) (hj : j < N) : ((j + d) % N + N - d) % N = j := by
  rw [Nat.add_sub_assoc hd.le, Nat.mod_add_mod, Nat.add_assoc, Nat.add_sub_cancel' hd.le, Nat.add_mod_right,
    Nat.mod_eq_of_lt hj]

/-- a cyclic shift permutes `range N` -/
theorem sum_range_shift (N d : Nat) (hd : d < N) (h : Nat → α) :
    ∑ i ∈ Finset.range N, h i = ∑ j ∈ Finset.range N, h ((j + d) % N) := by
  have hN : 0 < N := by omega
  refine Finset.sum_nbij' (fun i => (i + N - d) % N) (fun j => (j + d) % N) ?_ ?_ ?_ ?_ ?_
  · intro i _; exact Finset.mem_range.mpr (Nat.mod_lt _ hN)
  · intro j _; exact Finset.mem_range.mpr (Nat.mod_lt _ hN)
  · intro i hi; exact shift_inv1 N d i hd (Finset.mem_range.mp hi)
  · intro j hj; exact shift_inv2 N d j hd (Finset.mem_range.mp hj)
  · intro i hi
    show h i = h (((i + N - d) % N + d) % N)
    rw [shift_inv1 N d i hd (Finset.mem_range.mp hi)]

theorem tw_mul_shift (N : Nat) (hN : 0 < N) (tw : Nat → Cx α)
    (htw : ∀ a b, a < N → b < N → tw ((a + b) % N) = Cx.mul (tw a) (tw b)) (k j d : Nat) :
    tw (k * ((j + d) % N) % N) = Cx.mul (tw (k * j % N)) (tw (k * d % N)) := by
  rw [Nat.mul_mod_mod, Nat.mul_add, Nat.add_mod]
  exact htw _ _ (Nat.mod_lt _ hN) (Nat.mod_lt _ hN)

theorem dftNaive_shift (N : Nat) (hN : 0 < N) (tw : Nat → Cx α)
    (htw : ∀ a b, a < N → b < N → tw ((a + b) % N) = Cx.mul (tw a) (tw b))
    (rho : Nat → α) (d : Nat) (hd : d < N) (k : Nat) :
    dftNaive N tw (fun i => rho ((i + N - d) % N)) k
      = Cx.mul (dftNaive N tw rho k) (tw (k * d % N)) := by
  have term : ∀ j ∈ Finset.range N, ∀ π : Cx α → α,
      rho (((j + d) % N + N - d) % N) * π (tw (k * ((j + d) % N) % N))
        = rho j * π (Cx.mul (tw (k * j % N)) (tw (k * d % N))) := fun j hj π => by
    rw [shift_inv2 N d j hd (Finset.mem_range.mp hj), tw_mul_shift N hN tw htw]
  apply Prod.ext
  · rw [dftNaive_fst, sum_range_shift N d hd, Finset.sum_congr rfl fun j hj => term j hj Prod.fst]
    simp only [Cx.mul, dftNaive_fst, dftNaive_snd, Finset.sum_mul, ← Finset.sum_sub_distrib]
    exact Finset.sum_congr rfl fun j _ => by ring
  · rw [dftNaive_snd, sum_range_shift N d hd, Finset.sum_congr rfl fun j hj => term j hj Prod.snd]
    simp only [Cx.mul, dftNaive_fst, dftNaive_snd, Finset.sum_mul, ← Finset.sum_add_distrib]
    exact Finset.sum_congr rfl fun j _ => by ring

theorem cx_mul_assoc (a b c : Cx α) : Cx.mul a (Cx.mul b c) = Cx.mul (Cx.mul a b) c := by
  apply Prod.ext <;> simp only [Cx.mul] <;> ring

theorem lossOf_mul (N : Nat) (z F w : Nat → Cx α) :
    lossOf N z (fun k => Cx.mul (F k) (w k)) = fun k => Cx.mul (lossOf N z F k) (w k) := by
  funext k
  unfold lossOf
  split
  · exact cx_mul_assoc _ _ _
  · apply Prod.ext <;> simp [Cx.mul]

theorem c2rNaive_shift (N : Nat) (hN : 0 < N) (tw : Nat → Cx α)
    (htw0 : tw 0 = ((1 : α), (0 : α)))
    (htw : ∀ a b, a < N → b < N → tw ((a + b) % N) = Cx.mul (tw a) (tw b))
    (hunit : ∀ a, a < N → Cx.mul (tw a) (Cx.conj (tw a)) = ((1 : α), (0 : α)))
    (xs : Nat → Cx α) (hnyq : xs (N / 2) = ((0 : α), (0 : α))) (d x : Nat) :
    c2rNaive N tw (2 : α) (fun k => Cx.mul (xs k) (tw (k * d % N))) ((x + d) % N)
      = c2rNaive N tw 2 xs x := by
  have h0 : (Cx.mul (xs 0) (tw (0 * d % N))).1 = (xs 0).1 := by
    simp [htw0, Cx.mul]
  rw [c2rNaive_eq, c2rNaive_eq, nyqTerm_zero N xs hnyq, nyqTerm_zero N _ (by simp [hnyq, Cx.mul]), h0]
  congr 2
  refine Finset.sum_congr rfl fun k _ => ?_
  rw [tw_mul_shift N hN tw htw]
  have hu1 : (tw ((k + 1) * d % N)).1 * (tw ((k + 1) * d % N)).1
      + (tw ((k + 1) * d % N)).2 * (tw ((k + 1) * d % N)).2 = 1 := by
    simpa [Cx.mul, Cx.conj] using congrArg Prod.fst (hunit ((k + 1) * d % N) (Nat.mod_lt _ hN))
  simp only [Cx.mul]
  linear_combination (2 * ((xs (k + 1)).1 * (tw ((k + 1) * x % N)).1
    + (xs (k + 1)).2 * (tw ((k + 1) * x % N)).2)) * hu1

end shift

end Inovesa
