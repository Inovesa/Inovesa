/-
  The KickMap model in a field.  Three layers: sums over `ℤ`-indexed windows (a row of the map
  paired with a test function); the unsigned index arithmetic of `updateSM`/`apply`, stated once
  and turned into the normal form of a destination cell (`applyCell_smRow_trunc`); the generated
  weights (`poly_repro_shift`, from which the moments of a kicked line follow: `kick_line_moment`).
-/
import InovesaModel.Lemmas.Sums
import Mathlib.Data.Int.Interval
namespace Inovesa
open Finset

/-! ### rows and cells for any scalar -/
section Safe
variable {α : Type} [Arith α]

theorem smRowOf_length (n it jd : Nat) (xip : α) : (smRowOf n it jd xip).length = it := by
  unfold smRowOf
  split_ifs <;> simp

theorem smRowOf_in_bounds (n it jd : Nat) (hn : 0 < n) (xip : α) :
    ∀ e ∈ smRowOf n it jd xip, e.1 < n := by
  have hhalf : n / 2 < n := Nat.div_lt_self hn (by decide)
  intro e he
  unfold smRowOf at he
  split_ifs at he with hjd
  · simp only [List.mem_map, List.mem_range] at he
    obtain ⟨j1, _, rfl⟩ := he
    split_ifs with hj0
    · exact hj0
    · exact hhalf
  · simp only [List.mem_map, List.mem_range] at he
    obtain ⟨j1, _, rfl⟩ := he
    exact hhalf

/-- The index map is an abstract `f` on purpose: with `srcCell n y` in its place the kernel, comparing
    the guards, unfolds `% 2^32` on an open term and runs out of stack after minutes (it is instant
    with a small modulus).  The same happens to plain `simp` on goals that contain `srcCell`. -/
theorem foldl_guard_congr (n : Nat) (f : Nat → Nat) (tab : List (Hi α)) (rd rd' : Nat → α)
    (h : ∀ s, s < n → rd s = rd' s) (a : α) :
    tab.foldl (fun v e => if f e.1 < n then v + rd (f e.1) * e.2 else v) a =
    tab.foldl (fun v e => if f e.1 < n then v + rd' (f e.1) * e.2 else v) a := by
  induction tab generalizing a with
  | nil => rfl
  | cons x t ih =>
    simp only [List.foldl_cons]
    by_cases hs : f x.1 < n
    · rw [if_pos hs, if_pos hs, h _ hs]; exact ih _
    · rw [if_neg hs, if_neg hs]; exact ih _

/-- `applyCell` only reads the source line inside the grid -/
theorem applyCell_congr (n : Nat) (tab : List (Hi α)) (rd rd' : Nat → α) (y : Nat)
    (h : ∀ s, s < n → rd s = rd' s) : applyCell n tab rd y = applyCell n tab rd' y :=
  foldl_guard_congr n (srcCell n y) tab rd rd' h zero

theorem applyLine_congr (n : Nat) (tab : List (Hi α)) (rd rd' : Nat → α)
    (h : ∀ s, s < n → rd s = rd' s) : applyLine n tab rd = applyLine n tab rd' :=
  List.map_congr_left fun y _ => applyCell_congr n tab rd rd' y h

theorem applyY_single (n : Nat) (tabs : Nat → List (Hi α)) (base : Nat) (data : Nat → α) :
    applyY n 1 0 (fun r => tabs (base + r)) data
      = (List.range n).flatMap fun x =>
          applyLine n (tabs (base + x)) (fun s => data (x * n + s)) := by
  simp [applyY, List.range_one]

end Safe

/-! ### sums over `ℤ`-indexed windows -/
section IntSums
variable {α : Type} [CommRing α]

/-- data on the grid `[0,n)`, read as zero outside (the code's bounds test). -/
def rdI (n : ℕ) (g : ℤ → α) (i : ℤ) : α := if 0 ≤ i ∧ i < n then g i else 0

/-- Shifting a window against a test function `φ`: if every nonzero cell `s` of `g` in `[0,n)`
    has `s - b` in `[0,n)`, nothing is lost at either end. -/
theorem sum_shift (n : ℕ) (g φ : ℤ → α) (b : ℤ)
    (h : ∀ s : ℤ, 0 ≤ s → s < n → g s ≠ 0 → 0 ≤ s - b ∧ s - b < n) :
    ∑ y ∈ Ico (0:ℤ) n, φ y * rdI n g (y + b) = ∑ s ∈ Ico (0:ℤ) n, φ (s - b) * g s := by
  have e : ∑ y ∈ Ico (0:ℤ) n, φ y * rdI n g (y + b)
      = ∑ s ∈ Ico (0 + b) (n + b), φ (s - b) * rdI n g s := by
    rw [← Finset.sum_Ico_add']
    simp only [add_sub_cancel_right]
  rw [e]
  apply Finset.sum_congr_of_eq_on_inter
  · intro s _ hs
    rw [mem_Ico] at hs
    rw [rdI, if_neg hs, mul_zero]
  · intro s hs hs'
    rw [mem_Ico] at hs hs'
    by_contra hg
    have := h s hs.1 hs.2 (right_ne_zero_of_mul hg)
    omega
  · intro s _ hs
    rw [mem_Ico] at hs
    rw [rdI, if_pos hs]

/-- One row of `KickMap::apply` over `ℤ`, `out[y] = Σ_j w_j * in[y + a + j]`, paired with a test
    function: `Σ_y φ(y)·out[y] = Σ_s (Σ_j w_j·φ(s − a − j))·in[s]` for interior support. -/
theorem kick_row_weighted (n k : ℕ) (w : ℕ → α) (a : ℤ) (g φ : ℤ → α)
    (hint : ∀ j, j < k → ∀ s : ℤ, 0 ≤ s → s < n → g s ≠ 0 →
      0 ≤ s - (a + j) ∧ s - (a + j) < n) :
    ∑ y ∈ Ico (0:ℤ) n, φ y * ∑ j ∈ range k, w j * rdI n g (y + a + j)
      = ∑ s ∈ Ico (0:ℤ) n, (∑ j ∈ range k, w j * φ (s - (a + j))) * g s := by
  simp only [Finset.mul_sum, Finset.sum_mul]
  rw [Finset.sum_comm]
  conv_rhs => rw [Finset.sum_comm]
  refine Finset.sum_congr rfl fun j hj => ?_
  have := sum_shift n g φ (a + j) (hint j (mem_range.mp hj))
  simp only [← add_assoc] at this
  simp only [mul_left_comm (φ _), mul_assoc, ← Finset.mul_sum, this]

/-- one row of `KickMap::apply` over `ℤ`: `out[y] = Σ_j w_j * in[y + a + j]`; if the
    weights sum to one and the support is interior, the row sum is conserved -/
theorem kick_row_conserves (n k : ℕ) (w : ℕ → α) (a : ℤ) (g : ℤ → α)
    (hw : ∑ j ∈ range k, w j = 1)
    (hint : ∀ j, j < k → ∀ s : ℤ, 0 ≤ s → s < n → g s ≠ 0 →
      0 ≤ s - (a + j) ∧ s - (a + j) < n) :
    ∑ y ∈ Ico (0:ℤ) n, ∑ j ∈ range k, w j * rdI n g (y + a + j) = ∑ s ∈ Ico (0:ℤ) n, g s := by
  simpa [hw] using kick_row_weighted n k w a g (fun _ => 1) hint

/-- `ℤ`-indexed sum over `[0,n)` as a `ℕ`-indexed one -/
theorem sum_Ico_int_eq_range (n : ℕ) (F : ℤ → α) :
    ∑ y ∈ Ico (0:ℤ) n, F y = ∑ i ∈ range n, F (i : ℤ) := by
  rw [Int.Ico_eq_finset_map, Finset.sum_map]
  simp

end IntSums

namespace Props.C02
variable {α : Type} [Field α]

/-- zero extension of a grid line to all integers (what the unsigned-wrap bounds test of
    `KickMap::apply` implements) -/
def rdz (n : Nat) (rd : Nat → α) (i : Int) : α := if 0 ≤ i ∧ i < n then rd i.toNat else 0

/-- interpolation orders the code supports -/
def ValidIt (it : Nat) : Prop := it = 1 ∨ it = 2 ∨ it = 3 ∨ it = 4

theorem ValidIt.le_four {it : Nat} (h : ValidIt it) : it ≤ 4 := by unfold ValidIt at h; omega

end Props.C02
open Props.C02

/-! ### one destination cell of a kicked line -/
section Cell
open Gen
variable {α : Type} [Field α]

/-- a guarded read through a wrapped difference reads the zero extension at the signed difference -/
theorem wrap_read {a c n : ℕ} (ha : a < W32) (hc : c + n ≤ W32) (rd : ℕ → α) :
    (if (a + W32 - c) % W32 < n then rd ((a + W32 - c) % W32) else 0) = rdz n rd ((a : ℤ) - c) := by
  unfold rdz
  by_cases h : c ≤ a ∧ a - c < n
  · rw [if_pos ((wrap_sub_lt_iff ha hc).mpr h), if_pos (by omega), wrap_sub h.1 ha]
    congr 1; omega
  · rw [if_neg (mt (wrap_sub_lt_iff ha hc).mp h), if_neg (by omega)]

/-- what `apply` reads through table index `idx` for destination `y` -/
theorem srcCell_read {n y idx : ℕ} (hn : n < 2 ^ 31) (hy : y < n) (hi : idx < n) (rd : ℕ → α) :
    (if srcCell n y idx < n then rd (srcCell n y idx) else 0)
      = rdz n rd ((y : ℤ) + idx - (n / 2 : ℕ)) := by
  have := wrap_read (a := y + idx) (c := n / 2) (n := n) (by unfold W32; omega)
    (by unfold W32; omega) rd
  rwa [Nat.cast_add] at this

theorem foldl_cond_add {β : Type} (p : β → Prop) [DecidablePred p] (g : β → α)
    (l : List β) (a : α) :
    l.foldl (fun v h => if p h then v + g h else v) a
      = a + (l.map fun h => if p h then g h else 0).sum := by
  rw [← foldl_add_eq_sum]
  congr
  funext v h
  split_ifs <;> simp

/-- `applyCell` as a plain sum over the table row -/
theorem applyCell_eq_sum (n : Nat) (tab : List (Hi α)) (rd : Nat → α) (y : Nat) :
    applyCell n tab rd y
      = (tab.map fun h => (if srcCell n y h.1 < n then rd (srcCell n y h.1) else 0) * h.2).sum := by
  have := foldl_cond_add (fun h : Hi α => srcCell n y h.1 < n)
    (fun h => rd (srcCell n y h.1) * h.2) tab 0
  simpa [applyCell, ite_mul] using this

/-- one table entry as `updateSM` writes it (stencil index `a - c` in unsigned arithmetic, weight
    `w`, replaced by `{n/2, 0}` outside the line) and as `apply` reads it -/
theorem smEntry_read {n y a c : ℕ} (hn : n < 2 ^ 31) (hy : y < n) (ha : a < W32) (hc : c + n ≤ W32)
    (w : α) (rd : ℕ → α) (e : Hi α)
    (he : e = if (a + W32 - c) % W32 < n then ((a + W32 - c) % W32, w) else (n / 2, 0)) :
    (if srcCell n y e.1 < n then rd (srcCell n y e.1) else 0) * e.2
      = (if c ≤ a ∧ a - c < n then w else 0) * rdz n rd ((y : ℤ) + ((a : ℤ) - c) - (n / 2 : ℕ)) := by
  by_cases h : c ≤ a ∧ a - c < n
  · rw [if_pos ((wrap_sub_lt_iff ha hc).mpr h), wrap_sub h.1 ha] at he
    rw [he, if_pos h, srcCell_read hn hy h.2, Nat.cast_sub h.1, mul_comm, add_sub_assoc]
  · rw [if_neg (mt (wrap_sub_lt_iff ha hc).mp h)] at he
    rw [he, if_neg h, mul_zero, zero_mul]

/-- weight that `updateSM` actually stores for stencil point `j`: entries whose table
    index `jd + j - (it-1)/2` falls outside `[0,n)` are zeroed -/
def wTrunc (n it jd : Nat) (xip : α) (j : Nat) : α :=
  if (it - 1) / 2 ≤ jd + j ∧ jd + j - (it - 1) / 2 < n then (coeff it xip).getD j 0 else 0

/-- Normal form of one destination cell of a kicked line, for every row inside the grid:
    `Σ_j w_j·in[y + (jd − n/2) + j − (it−1)/2]`, cells outside `[0,n)` reading as 0, with the
    weights that survive `updateSM`. -/
theorem applyCell_smRow_trunc (n it jd : Nat) (hit : it ≤ 4) (hn : n < 2 ^ 31) (hjd : jd < n)
    (xip : α) (rd : Nat → α) (y : Nat) (hy : y < n) :
    applyCell n (smRowOf n it jd xip) rd y
      = ((List.range it).map fun j =>
          wTrunc n it jd xip j *
            rdz n rd ((y : Int) + ((jd : Int) - ((n / 2 : Nat) : Int)) + (j : Int)
                       - (((it - 1) / 2 : Nat) : Int))).sum := by
  rw [applyCell_eq_sum, smRowOf, if_pos hjd, List.map_map]
  congr 1
  refine List.map_congr_left fun j hj => ?_
  rw [List.mem_range] at hj
  rw [Function.comp_apply, wTrunc]
  simp only [zero_field]
  rw [smEntry_read hn hy (a := jd + j) (c := (it - 1) / 2) (by unfold W32; omega)
    (by unfold W32; omega) _ rd _ rfl]
  congr 2
  push_cast; ring

/-- all `it` table entries of the row for integer part `jd` address cells of the grid -/
def StencilIn (n it jd : Nat) : Prop := (it - 1) / 2 ≤ jd ∧ jd + (it - 1) - (it - 1) / 2 < n

theorem wTrunc_of_stencilIn (n it jd : Nat) (h : StencilIn n it jd) (xip : α) (j : Nat)
    (hj : j < it) : wTrunc n it jd xip j = (coeff it xip).getD j 0 := by
  unfold wTrunc
  rw [if_pos]
  unfold StencilIn at h
  omega

/-- normal form for a row whose stencil lies in the table: the generated weights -/
theorem applyCell_smRow_stencilIn (n it jd : Nat) (hit : it ≤ 4) (hn : n < 2 ^ 31) (hjd : jd < n)
    (hst : StencilIn n it jd) (xip : α) (rd : Nat → α) (y : Nat) (hy : y < n) :
    applyCell n (smRowOf n it jd xip) rd y
      = ((List.range it).map fun j =>
          (coeff it xip).getD j 0 *
            rdz n rd ((y : Int) + ((jd : Int) - ((n / 2 : Nat) : Int)) + (j : Int)
                       - (((it - 1) / 2 : Nat) : Int))).sum := by
  rw [applyCell_smRow_trunc n it jd hit hn hjd xip rd y hy]
  congr 1
  refine List.map_congr_left fun j hj => ?_
  rw [wTrunc_of_stencilIn n it jd hst xip j (List.mem_range.mp hj)]

end Cell

/-! ### the generated weights -/
section Coeff
open Gen
variable {α : Type} [Field α] [CharZero α]

omit [CharZero α] in
theorem coeff_eq_map_getD (it : Nat) (h : ValidIt it) (f : α) :
    coeff it f = (List.range it).map fun j => (coeff it f).getD j 0 := by
  rcases h with rfl | rfl | rfl | rfl <;> rfl

/-- at offset zero the weights are the unit vector at position `(it-1)/2` -/
theorem coeff_zero (it : Nat) (h : ValidIt it) :
    coeff it (0 : α) = (List.range it).map fun j => if j = (it - 1) / 2 then 1 else 0 := by
  rcases h with rfl | rfl | rfl | rfl <;> simp [coeff, List.range_succ]

/-- The `it`-point scheme is exact on polynomials of degree `< it`, about any origin `u`:
    `Σ_j w_j(f) · P(u + j − (it−1)/2) = P(u + f)`.  `P(t) = a0 + a1 t + a2 t² + a3 t³` with the
    coefficients of degree `≥ it` forced to zero.  Every other property of the weights used in
    the development (sum one, first moment, moments of a kicked line) is an instance. -/
theorem poly_repro_shift (it : Nat) (h : ValidIt it) (u f a0 a1 a2 a3 : α)
    (h1 : it ≤ 1 → a1 = 0) (h2 : it ≤ 2 → a2 = 0) (h3 : it ≤ 3 → a3 = 0) :
    (((List.range it).map fun j =>
        (coeff it f).getD j 0 * (fun t => a0 + a1 * t + a2 * t ^ 2 + a3 * t ^ 3)
          (u + ((j : α) - (((it - 1) / 2 : Nat) : α)))).sum)
      = (fun t => a0 + a1 * t + a2 * t ^ 2 + a3 * t ^ 3) (u + f) := by
  rcases h with rfl | rfl | rfl | rfl
  · obtain rfl := h1 (by norm_num); obtain rfl := h2 (by norm_num); obtain rfl := h3 (by norm_num)
    simp [coeff, List.range_succ]
  · obtain rfl := h2 (by norm_num); obtain rfl := h3 (by norm_num)
    simp [coeff, List.range_succ]; ring
  · obtain rfl := h3 (by norm_num)
    simp [coeff, List.range_succ]; ring
  · simp [coeff, List.range_succ]; ring

theorem wTrunc_zero (n it jd : Nat) (h : ValidIt it) (hjd : jd < n) (j : Nat) (hj : j < it) :
    wTrunc n it jd (0 : α) j = if j = (it - 1) / 2 then 1 else 0 := by
  unfold wTrunc
  rw [coeff_zero it h]
  simp only [List.getD_eq_getElem?_getD, List.getElem?_map, List.getElem?_range hj, Option.map_some,
    Option.getD_some]
  by_cases hc : j = (it - 1) / 2
  · rw [if_pos hc, if_pos]; omega
  · rw [if_neg hc, ite_self]

end Coeff

/-! ### moments of a kicked line -/
section Line
open Gen
variable {α : Type} [Field α] [CharZero α]

namespace Props.C01
/-- Interior support of a line w.r.t. the stencil of table row `(jd, it)`: every non-zero
    source cell `s` has all its `it` destination cells `s − D − j + (it−1)/2` inside the
    grid (`D = jd − n/2`), and the row is not zeroed (`jd < n`). -/
def InteriorLine (n it jd : Nat) (rd : Nat → α) : Prop :=
  jd < n ∧ ∀ j : Nat, j < it → ∀ s : Nat, s < n → rd s ≠ 0 →
    (0 : Int) ≤ (s : Int) - (((jd : Int) - ((n / 2 : Nat) : Int)) + (j : Int) - (((it - 1) / 2 : Nat) : Int)) ∧
    (s : Int) - (((jd : Int) - ((n / 2 : Nat) : Int)) + (j : Int) - (((it - 1) / 2 : Nat) : Int)) < n
end Props.C01
open Props.C01

omit [CharZero α] in
/-- a kicked line paired with a test function: the pairing moves to the weights -/
theorem kick_line_weighted (n it jd : Nat) (hit : it ≤ 4) (hn : n < 2 ^ 31) (xip : α)
    (rd : Nat → α) (hst : StencilIn n it jd) (hint : InteriorLine n it jd rd)
    (φ : ℤ → α) :
    ∑ y ∈ range n, φ y * applyCell n (smRowOf n it jd xip) rd y
      = ∑ s ∈ range n, (∑ j ∈ range it, (coeff it xip).getD j 0 *
          φ ((s : ℤ) - ((jd : ℤ) - (n / 2 : ℕ) - ((it - 1) / 2 : ℕ) + j))) * rd s := by
  have hidx : ∀ y j : ℤ, y + ((jd : ℤ) - (n / 2 : ℕ)) + j - ((it - 1) / 2 : ℕ)
      = y + ((jd : ℤ) - (n / 2 : ℕ) - ((it - 1) / 2 : ℕ)) + j := fun _ _ => by ring
  have e : ∀ y ∈ range n, φ y * applyCell n (smRowOf n it jd xip) rd y
      = φ y * ∑ j ∈ range it, (coeff it xip).getD j 0 * rdI n (fun i : ℤ => rd i.toNat)
          ((y : ℤ) + ((jd : ℤ) - (n / 2 : ℕ) - ((it - 1) / 2 : ℕ)) + j) := fun y hy => by
    rw [applyCell_smRow_stencilIn n it jd hit hn hint.1 hst xip rd y (mem_range.mp hy),
      sum_map_range]
    simp only [hidx]
    rfl
  rw [Finset.sum_congr rfl e, ← sum_Ico_int_eq_range n fun y : ℤ => φ y * ∑ j ∈ range it,
      (coeff it xip).getD j 0 * rdI n (fun i : ℤ => rd i.toNat)
        (y + ((jd : ℤ) - (n / 2 : ℕ) - ((it - 1) / 2 : ℕ)) + j),
    kick_row_weighted n it _ _ (fun i : ℤ => rd i.toNat) φ, sum_Ico_int_eq_range]
  · simp only [Int.toNat_natCast]
  · intro j hj s hs0 hsn hne
    have := hint.2 j hj s.toNat (by omega) hne
    omega

/-- Moments of a kicked line: for a polynomial `P` of degree `< it`, interior support and the
    row's stencil inside the table, `Σ_y P(y)·out[y] = Σ_s P(s − (D + f))·in[s]`, `D = jd − n/2`:
    up to degree `it − 1` the output has the moments of the input moved by exactly `D + f`. -/
theorem kick_line_moment (n it jd : Nat) (hit : ValidIt it) (hn : n < 2 ^ 31) (xip : α)
    (rd : Nat → α) (hst : StencilIn n it jd) (hint : InteriorLine n it jd rd)
    (a0 a1 a2 a3 : α) (h1 : it ≤ 1 → a1 = 0) (h2 : it ≤ 2 → a2 = 0) (h3 : it ≤ 3 → a3 = 0) :
    ∑ y ∈ range n, (a0 + a1 * (y : α) + a2 * (y : α) ^ 2 + a3 * (y : α) ^ 3)
        * applyCell n (smRowOf n it jd xip) rd y
      = ∑ s ∈ range n,
          (fun t => a0 + a1 * t + a2 * t ^ 2 + a3 * t ^ 3)
            ((s : α) - (((jd : α) - ((n / 2 : Nat) : α)) + xip)) * rd s := by
  have := kick_line_weighted n it jd hit.le_four hn xip rd hst hint
    fun y => a0 + a1 * (y : α) + a2 * (y : α) ^ 2 + a3 * (y : α) ^ 3
  simp only [Int.cast_natCast] at this
  rw [this]
  refine Finset.sum_congr rfl fun s _ => ?_
  -- `P(s − D − (j − c)) = Q((D − s) + (j − c))` with `Q(t) = P(−t)`
  have := poly_repro_shift it hit (((jd : α) - ((n / 2 : Nat) : α)) - s) xip a0 (-a1) a2 (-a3)
    (fun h => by rw [h1 h, neg_zero]) h2 (fun h => by rw [h3 h, neg_zero])
  rw [sum_map_range] at this
  congr 1
  convert this using 1
  · refine Finset.sum_congr rfl fun j _ => ?_
    simp only [Int.cast_sub, Int.cast_add, Int.cast_natCast]
    ring
  · ring

/-- degree 0: a kicked line keeps its sum -/
theorem kick_line_conserves (n it jd : Nat) (hit : ValidIt it) (hn : n < 2 ^ 31) (xip : α)
    (rd : Nat → α) (hst : StencilIn n it jd) (hint : InteriorLine n it jd rd) :
    ∑ y ∈ range n, applyCell n (smRowOf n it jd xip) rd y = ∑ s ∈ range n, rd s := by
  simpa using kick_line_moment n it jd hit hn xip rd hst hint 1 0 0 0
    (fun _ => rfl) (fun _ => rfl) (fun _ => rfl)

/-- Counterexample to conservation without `StencilIn`: mesh 4, linear interpolation, row
    `jd = 3` (displacement +1 cell), fractional part 1/2.  `updateSM` zeroes the second
    table entry (its table index `jd+1 = 4` is not `< n`), so the unit impulse at cell 2 --
    whose two destination cells 1 and 0 are inside the grid -- arrives as 1/2 only. -/
theorem edge_row_loses_charge :
    applyLine 4 (smRowOf 4 2 3 (1 / 2 : α)) (fun s => if s = 2 then 1 else 0)
      = [0, 1 / 2, 0, 0] := by
  have h := fun y hy => applyCell_smRow_trunc 4 2 3 (by norm_num) (by norm_num) (by norm_num)
    (1 / 2 : α) (fun s => if s = 2 then 1 else 0) y hy
  unfold applyLine
  simp only [List.range_succ, List.range_zero, List.nil_append, List.cons_append,
    List.map_cons, List.map_nil]
  rw [h 0 (by norm_num), h 1 (by norm_num), h 2 (by norm_num), h 3 (by norm_num)]
  simp [List.range_succ, wTrunc, rdz, coeff]
  norm_num

/-- same row, constant data 1: destination cell 0 gets 1/2, not 1 -/
theorem edge_row_const :
    applyCell 4 (smRowOf 4 2 3 (1 / 2 : α)) (fun _ => 1) 0 = 1 / 2 := by
  rw [applyCell_smRow_trunc 4 2 3 (by norm_num) (by norm_num) (by norm_num) _ _ 0 (by norm_num)]
  simp [List.range_succ, wTrunc, rdz, coeff]
  norm_num

end Line

/-! ### whole grid -/
section Grid
variable {α : Type} [Field α]

theorem grid_sum (n nb : Nat) (data : Nat → α) :
    ((List.range (nb * n * n)).map data).sum
      = ∑ b ∈ range nb, ∑ x ∈ range n, ∑ s ∈ range n, data (b * n * n + x * n + s) := by
  rw [sum_map_range, sum_range_mul_block (nb * n) n, sum_range_mul_block nb n]
  apply Finset.sum_congr rfl; intro b _
  apply Finset.sum_congr rfl; intro x _
  apply Finset.sum_congr rfl; intro s _
  congr 1; ring

/-- a y-kick that conserves the sum of every line conserves the sum of the grid -/
theorem applyY_sum_eq (n nb lb : Nat) (tabs : Nat → List (Hi α)) (data : Nat → α)
    (h : ∀ b, b < nb → ∀ x, x < n →
      ∑ y ∈ range n, applyCell n (tabs (min b lb * n + x)) (fun s => data (b * n * n + x * n + s)) y
        = ∑ s ∈ range n, data (b * n * n + x * n + s)) :
    (applyY n nb lb tabs data).sum = ((List.range (nb * n * n)).map data).sum := by
  rw [grid_sum, applyY, sum_flatMap, sum_map_range]
  refine Finset.sum_congr rfl fun b hb => ?_
  rw [sum_flatMap, sum_map_range]
  refine Finset.sum_congr rfl fun x hx => ?_
  rw [applyLine, sum_map_range, h b (mem_range.mp hb) x (mem_range.mp hx)]

/-- same for an x-kick: the lines run over `x` with stride `n` -/
theorem applyX_sum_eq (n nb : Nat) (tabs : Nat → List (Hi α)) (data : Nat → α)
    (h : ∀ b, b < nb → ∀ y, y < n →
      ∑ x ∈ range n, applyCell n (tabs y) (fun s => data (b * n * n + s * n + y)) x
        = ∑ s ∈ range n, data (b * n * n + s * n + y)) :
    (applyX n nb tabs data).sum = ((List.range (nb * n * n)).map data).sum := by
  rw [grid_sum, applyX, sum_flatMap, sum_map_range]
  refine Finset.sum_congr rfl fun b hb => ?_
  simp only [sum_flatMap, sum_map_range]
  rw [Finset.sum_comm]
  conv_rhs => rw [Finset.sum_comm]
  exact Finset.sum_congr rfl fun y hy => h b (mem_range.mp hb) y (mem_range.mp hy)

end Grid

end Inovesa
