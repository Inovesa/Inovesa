/- helper lemmas about the PhaseSpace model (field interpretation) -/
import InovesaModel.Model.PhaseSpace
import InovesaModel.Lemmas.Sums
namespace Inovesa

/-- in a field the variance accumulation is exact: `var + proj·d²` -/
instance (priority := low) fieldVarAcc {α : Type} [Field α] : VarAcc α := ⟨fun v p d => v + p * (d * d)⟩

section sums
variable {α : Type} [Field α]

theorem accSq_field (v p d : α) : VarAcc.accSq v p d = v + p * (d * d) := rfl

theorem innerProd_eq_finsum (n : Nat) (f ws : Nat → α) :
    innerProd n f ws = ∑ i ∈ Finset.range n, f i * ws i :=
  foldl_range_zero n _

theorem integralOf_eq_finsum (nb : Nat) (f : Nat → α) : integralOf nb f = ∑ b ∈ Finset.range nb, f b :=
  foldl_range_zero nb f

theorem innerProd_congr (n : Nat) (f g ws : Nat → α) (h : ∀ i, i < n → f i = g i) :
    innerProd n f ws = innerProd n g ws := by
  rw [innerProd_eq_finsum, innerProd_eq_finsum]
  exact Finset.sum_congr rfl fun i hi => by rw [h i (Finset.mem_range.mp hi)]

theorem idx_div (n b x y : Nat) (hx : x < n) (hy : y < n) :
    (b * n * n + x * n + y) / (n * n) = b := by
  rw [Nat.mul_assoc, Nat.add_assoc]
  exact flat_div (flat_lt hx hy)

/-! ### charge (Simpson integral of the x-projection) -/

theorem charge_eq_finsum (n : Nat) (ws data : Nat → α) (b : Nat) :
    fillingOf n ws (xprojOf n ws data) b
      = ∑ x ∈ Finset.range n, (∑ y ∈ Finset.range n, data (b * n * n + x * n + y) * ws y) * ws x := by
  unfold fillingOf
  rw [innerProd_eq_finsum]
  refine Finset.sum_congr rfl fun x _ => ?_
  unfold xprojOf
  rw [innerProd_eq_finsum]

/-- a factor per bunch on the grid is the same factor on the bunch's charge -/
theorem charge_scale (n : Nat) (ws data k : Nat → α) (b : Nat) :
    fillingOf n ws (xprojOf n ws fun i => data i * k (i / (n * n))) b
      = k b * fillingOf n ws (xprojOf n ws data) b := by
  rw [charge_eq_finsum, charge_eq_finsum, Finset.mul_sum]
  refine Finset.sum_congr rfl fun x hx => ?_
  rw [← mul_assoc, Finset.mul_sum]
  congr 1
  refine Finset.sum_congr rfl fun y hy => ?_
  rw [idx_div n b x y (Finset.mem_range.mp hx) (Finset.mem_range.mp hy)]
  ring

/-- `normalize` is such a factor: `fset/fill` for the occupied buckets, `0` for the others -/
theorem normalizeOf_eq (n : Nat) (pos : Nat → Bool) (fset fill data : Nat → α) :
    normalizeOf n pos fset fill data
      = fun i => data i * (fun b => if pos b then fset b / fill b else 0) (i / (n * n)) := by
  funext i
  simp only [normalizeOf]
  split <;> simp

end sums


/-! ### the state machine -/

section arrays

theorem foldl_setIfInBounds_size {β : Type} (k nb : Nat) (v : Nat → β) (m : Array β) :
    ((List.range nb).foldl (fun (m : Array β) b => m.setIfInBounds (k + b) (v b)) m).size = m.size := by
  induction nb with
  | zero => simp
  | succ nb ih => simp [List.range_succ, List.foldl_append, ih]

theorem foldl_setIfInBounds_getD {β : Type} (k nb : Nat) (v : Nat → β) (m : Array β) (j : Nat) (d : β) :
    ((List.range nb).foldl (fun (m : Array β) b => m.setIfInBounds (k + b) (v b)) m).getD (k + j) d
      = if j < nb ∧ k + j < m.size then v j else m.getD (k + j) d := by
  induction nb with
  | zero => simp
  | succ nb ih =>
    rw [List.range_succ, List.foldl_append]
    simp only [List.foldl_cons, List.foldl_nil]
    rw [Array.getD_eq_getD_getElem?, Array.getElem?_setIfInBounds, foldl_setIfInBounds_size]
    by_cases hj : nb = j
    · subst hj
      by_cases hs : k + nb < m.size
      · simp [hs]
      · simp [hs]
    · have h1 : ¬ (k + nb = k + j) := by omega
      rw [if_neg h1, ← Array.getD_eq_getD_getElem?, ih]
      have : (j < nb + 1) ↔ j < nb := by omega
      simp only [this]
end arrays

section state
variable {α : Type} [Field α]

/-- the value `average(axis)` stores for bunch `b` -/
def avgVal (c : PSConst α) (axis : Nat) (s : PSState α) (b : Nat) : α :=
  averageOf c.n (c.pos.getD b false)
    (fun i => (if axis = 0 then s.proj0 else s.proj1).getD (b * c.n + i) zero)
    (if axis = 0 then c.ax0 else c.ax1).at (if axis = 0 then c.ax0 else c.ax1).delta
    (s.filling.getD b zero)

theorem psVariance_mean_getD (sq : α → α) (c : PSConst α) (axis : Nat) (s : PSState α) (j : Nat) (d : α) :
    (psVariance sq c axis s).mean.getD (axis * c.nb + j) d
      = if j < c.nb ∧ axis * c.nb + j < s.mean.size then avgVal c axis s j
        else s.mean.getD (axis * c.nb + j) d :=
  foldl_setIfInBounds_getD (axis * c.nb) c.nb (avgVal c axis s) s.mean j d

theorem psConstruct_mean (c : PSConst α) (d : Array α) :
    (psConstruct c d).mean = Array.replicate (2 * c.nb) (zero : α) := rfl

/-- every constructed state is fresh (the four conjuncts of `Props.C09.Fresh`, unfolded) -/
theorem psConstruct_fresh (c : PSConst α) (d : Array α) :
    (psConstruct c d).proj0 = (psXProj c (psConstruct c d)).proj0 ∧
    (psConstruct c d).proj1 = (psYProj c (psConstruct c d)).proj1 ∧
    (psConstruct c d).filling = (psIntegrate c (psXProj c (psConstruct c d))).filling ∧
    (psConstruct c d).integral = (psIntegrate c (psXProj c (psConstruct c d))).integral :=
  ⟨rfl, rfl, rfl, rfl⟩

end state

end Inovesa
