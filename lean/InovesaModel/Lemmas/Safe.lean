/-
  Helper lemmas for Props/C17 (index arithmetic of buffer lengths, the clamp of the
  Fokker–Planck switch row, impedance tables and the text reader).
-/
import InovesaModel.Model.Impedance
import InovesaModel.Gen.Sizes
import Mathlib.Algebra.Order.Floor.Ring
import Mathlib.Data.Rat.Floor
import Mathlib.Tactic.Linarith
namespace Inovesa
open Gen

theorem ratToNat_ratCeil (x : Rat) : ratToNat (ratCeil x) = x.ceil.toNat := by
  simp [ratToNat, ratCeil, Rat.floor_intCast]

theorem le_ratToNat_ratCeil (m : Nat) (x : Rat) (h : (m : Rat) ≤ x) : m ≤ ratToNat (ratCeil x) := by
  rw [ratToNat_ratCeil]
  have h1 : ((m : Int) : Rat) ≤ ((x.ceil : Int) : Rat) := by
    have := @Rat.le_ceil x
    push_cast
    exact le_trans h this
  have h2 : (m : Int) ≤ x.ceil := by exact_mod_cast h1
  omega

theorem one_le_maxRat (p : Rat) : (1 : Rat) ≤ max p 1 := le_max_right _ _

theorem psBins_le_padded (m : Nat) (p : Rat) : m ≤ ratToNat (ratCeil ((m : Rat) * max p 1)) := by
  apply le_ratToNat_ratCeil
  have h1 := one_le_maxRat p
  have h0 : (0 : Rat) ≤ (m : Rat) := Nat.cast_nonneg m
  nlinarith

theorem or_shift_lt (w k : Nat) (h : w < 2 ^ 63) : w ||| (w >>> k) < 2 ^ 63 :=
  Nat.or_lt_two_pow h (lt_of_le_of_lt (Nat.shiftRight_le _ _) h)

/-! ### impedance tables, text reader -/

section imp
variable {β : Type} [Arith β]

theorem addInto_nil_left (b : List (Cx β)) : addInto ([] : List (Cx β)) b = [] := by
  simp [addInto]

theorem addInto_nil_right (a : List (Cx β)) : addInto a ([] : List (Cx β)) = a := by
  simp [addInto]

theorem addInto_cons (x y : Cx β) (a b : List (Cx β)) :
    addInto (x :: a) (y :: b) = Cx.add x y :: addInto a b := by
  simp [addInto]

end imp

theorem readDataAux_length (old : Option Nat) (toks : List Tok) :
    3 * (readDataAux old toks).length ≤ toks.length := by
  fun_induction readDataAux old toks with
  | case1 old n a b rest re im ha hb ih =>
    simp only [List.length_append, List.length_cons]
    split_ifs <;> simp <;> omega
  | case2 => simp
  | case3 => simp

theorem readDataAux_values (old : Option Nat) (toks : List Tok) :
    ∀ r ∈ readDataAux old toks,
      (∃ t ∈ toks, t.val? = some r.1) ∧ (∃ t ∈ toks, t.val? = some r.2) := by
  fun_induction readDataAux old toks with
  | case1 old n a b rest re im ha hb ih =>
    intro r hr
    rw [List.mem_append] at hr
    rcases hr with hr | hr
    · split_ifs at hr
      · simp at hr
      · simp only [List.mem_singleton] at hr
        subst hr
        exact ⟨⟨a, by simp, hb⟩, ⟨b, by simp, ha⟩⟩
    · obtain ⟨⟨t1, m1, e1⟩, ⟨t2, m2, e2⟩⟩ := ih r hr
      exact ⟨⟨t1, by simp [m1], e1⟩, ⟨t2, by simp [m2], e2⟩⟩
  | case2 => simp
  | case3 => simp

theorem readDataAux_garbage (old : Option Nat) (t : Tok) (rest : List Tok) (h : ∀ n, t ≠ .idx n) :
    readDataAux old (t :: rest) = [] := by
  cases t with
  | idx n => exact absurd rfl (h n)
  | num v => simp [readDataAux]
  | bad => simp [readDataAux]


end Inovesa
