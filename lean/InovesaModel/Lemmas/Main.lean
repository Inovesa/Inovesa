/- the generated main program: each of its three blocks as a function of the state, the loop,
   and the run as a function of the number of steps -/
import InovesaModel.Lemmas.Exec
namespace Inovesa
open Gen

variable {V : Type} (sem : Sem V) (c : MCfg) (s : MState V)

/-! ### the three generated blocks as functions of the state -/

/-- the grid after the (possible) charge renormalisation at the head of step `n` -/
def gridR (sem : Sem V) (rn : Int) (n : Nat) (g xp : V) : V :=
  if isRenorm rn n then sem.normalize g (sem.integ xp) else g

theorem isRenorm_nonpos {rn : Int} (h : rn ≤ 0) (n : Nat) : isRenorm rn n = false := by
  simp [isRenorm]; omega

/-- the record written for a loop-head state with step `n`, grid `g`, cached projection `xp` -/
def recAt (sem : Sem V) (rn : Int) (n : Nat) (g xp : V) : MRec V :=
  { t := n, profile := xp, moments0 := sem.mom0 xp (sem.integ xp),
    eprofile := sem.yproj (gridR sem rn n g xp),
    moments1 := sem.mom1 (sem.yproj (gridR sem rn n g xp)) (sem.integ xp),
    population := sem.integ xp, ghostGrid := gridR sem rn n g xp }

/-- the grid after one full step -/
def stepGrid (sem : Sem V) (rn : Int) (hw hd : Bool) (n : Nat) (g xp : V) (q : List V) : V :=
  sem.fp (sem.drift (rfGrid sem hd
    (if hw then sem.kick (gridR sem rn n g xp) (sem.wake xp) else sem.ident (gridR sem rn n g xp)) q))

/-- a record is written in the loop at step `n` -/
def wr (c : MCfg) (n : Nat) : Bool := isOut c n && c.hasFile

/-- the output event of the loop-head state `s`: one row for every time-indexed dataset, the grid for
    the phase spaces if `all`, and `pad` for the padded buffers.  The loop's output block and the
    final block both do this. -/
def emit (sem : Sem V) (c : MCfg) (all : Bool) (pad : List V) (s : MState V) (f : MFile V) : MFile V :=
  { f with padded := f.padded ++ pad
           recs := f.recs ++ [recAt sem c.renormalize s.step s.grid s.xp]
           ps := if all then f.ps ++ [(s.step, gridR sem c.renormalize s.step s.grid s.xp)] else f.ps
           csr := f.csr ++ [sem.csr s.xp]
           wake := if c.hasWake then f.wake ++ [sem.wake s.xp] else f.wake
           tracks := f.tracks ++ [s.tracks]
           rfk := if c.hasDrfm then f.rfk ++ s.rfPast else f.rfk }

def initFn (sem : Sem V) (c : MCfg) (s : MState V) : MState V :=
  let xp := sem.xproj s.grid
  { s with step := 0, outnr := 0, clock := s.clock + 2, xp := xp, yp := sem.yproj s.grid, fil := sem.integ xp
           m1 := sem.mom1 (sem.yproj s.grid) (sem.integ xp)
           wpad := if c.hasFile && c.hasWake then sem.wakepad xp else s.wpad
           file := { s.file with
             ps := if c.hasFile && decide (c.h5save = 0) then s.file.ps ++ [(0, s.grid)] else s.file.ps
             padded := if c.hasFile && c.hasWake then s.file.padded ++ [sem.wakepad xp] else s.file.padded } }

def bodyFn (sem : Sem V) (c : MCfg) (s : MState V) : MState V :=
  let out := isOut c s.step
  let g := gridR sem c.renormalize s.step s.grid s.xp
  let wk := if c.hasWake then sem.wake s.xp else s.wk
  let g' := stepGrid sem c.renormalize c.hasWake c.hasDrfm s.step s.grid s.xp s.rfNext
  { step := s.step + 1
    outnr := if out then s.outnr + 1 else s.outnr
    clock := s.clock + 9 + if wr c s.step then 5 else 0
    grid := g'
    xp := sem.xproj g'
    yp := if out then sem.yproj g else s.yp
    fil := sem.integ s.xp
    m0 := if out then sem.mom0 s.xp (sem.integ s.xp) else s.m0
    m1 := if out then sem.mom1 (sem.yproj g) (sem.integ s.xp) else s.m1
    wk := wk
    wpad := if c.hasWake then sem.wakepad s.xp else s.wpad
    csrv := if wr c s.step then sem.csr s.xp else s.csrv
    rfNext := if c.hasDrfm then s.rfNext.tail else s.rfNext
    rfPast := if c.hasDrfm then (if wr c s.step then [] else s.rfPast) ++ s.rfNext.head?.toList else s.rfPast
    tracks := sem.track "fpm" (sem.track "drm" (sem.track "rfm" (sem.track "wm" s.tracks wk) wk) wk) wk
    file := if wr c s.step then emit sem c (isSaveAll c s.outnr) [] s s.file else s.file }

def finalFn (sem : Sem V) (c : MCfg) (s : MState V) : MState V :=
  if c.hasFile then
    let g := gridR sem c.renormalize s.step s.grid s.xp
    { s with clock := s.clock + 5, grid := g, yp := sem.yproj g, fil := sem.integ s.xp
             m0 := sem.mom0 s.xp (sem.integ s.xp), m1 := sem.mom1 (sem.yproj g) (sem.integ s.xp)
             wk := if c.hasWake then sem.wake s.xp else s.wk
             wpad := if c.hasWake then sem.wakepad s.xp else s.wpad
             csrv := sem.csr s.xp, rfPast := if c.hasDrfm then [] else s.rfPast
             file := emit sem c true (if c.hasWake then [sem.wakepad s.xp] else []) s s.file }
  else { s with clock := s.clock + 2 }

/-- brings the state after a guarded block into constructor form -/
theorem MState.ite_eta (p : Prop) [Decidable p] (a b : MState V) : (if p then a else b) =
    { step := if p then a.step else b.step, outnr := if p then a.outnr else b.outnr,
      clock := if p then a.clock else b.clock, grid := if p then a.grid else b.grid,
      xp := if p then a.xp else b.xp, yp := if p then a.yp else b.yp, fil := if p then a.fil else b.fil,
      m0 := if p then a.m0 else b.m0, m1 := if p then a.m1 else b.m1, wk := if p then a.wk else b.wk,
      wpad := if p then a.wpad else b.wpad, csrv := if p then a.csrv else b.csrv,
      rfNext := if p then a.rfNext else b.rfNext, rfPast := if p then a.rfPast else b.rfPast,
      tracks := if p then a.tracks else b.tracks, file := if p then a.file else b.file } := by
  split <;> rfl

theorem init_eq : execBlock sem c initialBlock s = initFn sem c s := by
  simp [initialBlock, MState.ite_eta, initFn]
  cases c.hasWake <;> cases c.hasFile <;> simp <;> split <;> rfl

theorem body_eq : execBlock sem c loopBody s = bodyFn sem c s := by
  simp [loopBody, MState.ite_eta, bodyFn, emit, wr, stepGrid, gridR, recAt, mkRec]
  cases c.hasWake <;> cases isOut c s.step <;> cases c.hasFile <;> cases c.hasDrfm <;> simp

theorem final_eq : execBlock sem c finalBlock s = finalFn sem c s := by
  cases hf : c.hasFile
  · simp [finalBlock, finalFn, hf]
  · simp [finalBlock, MState.ite_eta, finalFn, emit, gridR, recAt, mkRec, hf]
    cases c.hasWake <;> cases c.hasDrfm <;> simp

theorem body_clock : (execBlock sem c loopBody s).clock = s.clock + 9 + (if wr c s.step then 5 else 0) := by
  rw [body_eq]; rfl
theorem final_step : (execBlock sem c finalBlock s).step = s.step := by
  rw [final_eq, finalFn]; split <;> rfl
theorem init_clock : (execBlock sem c initialBlock s).clock = s.clock + 2 := by
  rw [init_eq]; rfl

/-! ### the loop -/

theorem iterate_succ (k : Nat) (s : MState V) : iterate sem c (k + 1) s = iterate sem c k (bodyFn sem c s) := by
  rw [iterate, body_eq]

/-- peel the LAST iteration -/
theorem iterate_succ' (k : Nat) (s : MState V) : iterate sem c (k + 1) s = bodyFn sem c (iterate sem c k s) := by
  induction k generalizing s with
  | zero => exact body_eq sem c s
  | succ k ih => exact ih (execBlock sem c loopBody s)

theorem iterate_add (a b : Nat) (s : MState V) :
    iterate sem c (a + b) s = iterate sem c b (iterate sem c a s) := by
  induction a generalizing s with
  | zero => simp [iterate]
  | succ a ih =>
    rw [Nat.add_right_comm a 1 b]
    exact ih (execBlock sem c loopBody s)

/-- invariants of the loop body are invariants of the loop -/
theorem iterate_inv (P : MState V → Prop) (hB : ∀ s, P s → P (bodyFn sem c s)) (k : Nat) (s : MState V)
    (h : P s) : P (iterate sem c k s) := by
  induction k with
  | zero => exact h
  | succ k ih => rw [iterate_succ']; exact hB _ ih

theorem loopFuel_none (fuel : Nat) (s : MState V) (h : s.step + fuel = c.laststep) :
    loopFuel sem c none fuel s = iterate sem c fuel s := by
  induction fuel generalizing s with
  | zero => rfl
  | succ n ih =>
    rw [loopFuel, if_pos ⟨by omega, rfl⟩, iterate]
    exact ih _ (by rw [body_eq]; show s.step + 1 + n = _; omega)

theorem loopFuel_some (sig : Option Nat) (fuel : Nat) (s : MState V) :
    ∃ j, j ≤ fuel ∧ loopFuel sem c sig fuel s = iterate sem c j s := by
  induction fuel generalizing s with
  | zero => exact ⟨0, Nat.le_refl _, rfl⟩
  | succ n ih =>
    by_cases h : s.step < c.laststep ∧ aborted sig s = false
    · obtain ⟨j, hj, e⟩ := ih (execBlock sem c loopBody s)
      exact ⟨j + 1, by omega, by rw [loopFuel, if_pos h, e]; rfl⟩
    · exact ⟨0, by omega, by rw [loopFuel, if_neg h]; rfl⟩

theorem loopFuel_aborted (sig : Option Nat) (fuel : Nat) (s : MState V) (h : aborted sig s = true) :
    loopFuel sem c sig fuel s = s := by
  cases fuel with
  | zero => rfl
  | succ n => rw [loopFuel, if_neg]; simp [h]

theorem runFor_eq (k : Nat) (s0 : MState V) :
    runFor sem c k s0 = finalFn sem c (iterate sem c k (initFn sem c s0)) := by
  rw [runFor, final_eq, init_eq]

/-- an invariant established by the initial block and kept by the loop body holds at the final block -/
theorem runFor_inv (P : MState V → Prop) (Q : MState V → Prop) (s0 : MState V)
    (hI : P (initFn sem c s0)) (hB : ∀ s, P s → P (bodyFn sem c s))
    (hF : ∀ s, P s → Q (finalFn sem c s)) (k : Nat) : Q (runFor sem c k s0) := by
  rw [runFor, final_eq, init_eq]
  exact hF _ (iterate_inv sem c P hB k _ hI)

/-- after the initial block the file changes by output events only -/
theorem runFor_file_inv (Q : MFile V → Prop) (s0 : MState V) (hI : Q (initFn sem c s0).file)
    (hE : ∀ all pad s f, Q f → Q (emit sem c all pad s f)) (k : Nat) : Q (runFor sem c k s0).file := by
  refine runFor_inv sem c (fun s => Q s.file) (fun s => Q s.file) s0 hI (fun s h => ?_) (fun s h => ?_) k
  · show Q (if _ then _ else _)
    split
    · exact hE _ _ _ _ h
    · exact h
  · unfold finalFn
    split
    · exact hE _ _ _ _ h
    · exact h

/-! ### the file only grows -/

def FilePrefix (f g : MFile V) : Prop :=
  f.recs <+: g.recs ∧ f.ps <+: g.ps ∧ f.csr <+: g.csr ∧ f.wake <+: g.wake ∧ f.tracks <+: g.tracks ∧
  f.rfk <+: g.rfk ∧ f.padded <+: g.padded

theorem FilePrefix.refl (f : MFile V) : FilePrefix f f := by simp [FilePrefix]

theorem FilePrefix.trans {f g h : MFile V} (a : FilePrefix f g) (b : FilePrefix g h) : FilePrefix f h :=
  ⟨a.1.trans b.1, a.2.1.trans b.2.1, a.2.2.1.trans b.2.2.1, a.2.2.2.1.trans b.2.2.2.1,
   a.2.2.2.2.1.trans b.2.2.2.2.1, a.2.2.2.2.2.1.trans b.2.2.2.2.2.1, a.2.2.2.2.2.2.trans b.2.2.2.2.2.2⟩

theorem emit_filePrefix (all : Bool) (pad : List V) (f : MFile V) : FilePrefix f (emit sem c all pad s f) := by
  refine ⟨?_, ?_, ?_, ?_, ?_, ?_, ?_⟩ <;> simp only [emit] <;> (try split) <;> simp

theorem iterate_filePrefix (k : Nat) (s : MState V) : FilePrefix s.file (iterate sem c k s).file := by
  induction k with
  | zero => exact FilePrefix.refl _
  | succ k ih =>
    rw [iterate_succ']
    refine ih.trans ?_
    show FilePrefix _ (if _ then _ else _)
    split
    · exact emit_filePrefix sem c _ _ _ _
    · exact FilePrefix.refl _

/-! ### the physical state evolves by a function of itself -/

/-- one step of the physical state `(step, grid, x-projection, remaining RF queue)` -/
def physStep (sem : Sem V) (rn : Int) (hw hd : Bool) (p : Nat × V × V × List V) : Nat × V × V × List V :=
  (p.1 + 1, stepGrid sem rn hw hd p.1 p.2.1 p.2.2.1 p.2.2.2,
    sem.xproj (stepGrid sem rn hw hd p.1 p.2.1 p.2.2.1 p.2.2.2), if hd then p.2.2.2.tail else p.2.2.2)

def physIter (sem : Sem V) (rn : Int) (hw hd : Bool) : Nat → Nat × V × V × List V → Nat × V × V × List V
  | 0, p => p
  | k + 1, p => physStep sem rn hw hd (physIter sem rn hw hd k p)

theorem physOf_body : physOf (execBlock sem c loopBody s)
    = physStep sem c.renormalize c.hasWake c.hasDrfm (physOf s) := by
  rw [body_eq]; rfl

theorem physOf_init : physOf (execBlock sem c initialBlock s) = (0, s.grid, sem.xproj s.grid, s.rfNext) := by
  rw [init_eq]; rfl

theorem physOf_iterate (k : Nat) (s : MState V) : physOf (iterate sem c k s)
    = physIter sem c.renormalize c.hasWake c.hasDrfm k (physOf s) := by
  induction k with
  | zero => rfl
  | succ k ih => rw [iterate_succ', physIter, ← ih]; rfl

theorem physIter_fst (rn : Int) (hw hd : Bool) (k : Nat) (p : Nat × V × V × List V) :
    (physIter sem rn hw hd k p).1 = p.1 + k := by
  induction k with
  | zero => rfl
  | succ k ih => exact congrArg (· + 1) ih

/-- the physical state at the head of step `k` of a run started on `s0` -/
def physAt (sem : Sem V) (c : MCfg) (s0 : MState V) (k : Nat) : Nat × V × V × List V :=
  physIter sem c.renormalize c.hasWake c.hasDrfm k (0, s0.grid, sem.xproj s0.grid, s0.rfNext)

theorem physOf_atHead (k : Nat) (s0 : MState V) :
    physOf (iterate sem c k (execBlock sem c initialBlock s0)) = physAt sem c s0 k := by
  rw [physOf_iterate, physOf_init]; rfl

theorem physAt_fst (s0 : MState V) (k : Nat) : (physAt sem c s0 k).1 = k := by
  rw [physAt, physIter_fst]; exact Nat.zero_add k

theorem atHead_step (k : Nat) (s0 : MState V) :
    (iterate sem c k (execBlock sem c initialBlock s0)).step = k :=
  (congrArg Prod.fst (physOf_atHead sem c k s0)).trans (physAt_fst sem c s0 k)

/-- the loop re-projects after the last map of every iteration -/
theorem physAt_xp (s0 : MState V) (k : Nat) : (physAt sem c s0 k).2.2.1 = sem.xproj (physAt sem c s0 k).2.1 := by
  cases k <;> rfl

/-- the final grid as a function of the physical state at the loop exit -/
def finalGridOf (sem : Sem V) (rn : Int) (hf : Bool) (p : Nat × V × V × List V) : V :=
  if hf then gridR sem rn p.1 p.2.1 p.2.2.1 else p.2.1

theorem final_grid : (execBlock sem c finalBlock s).grid
    = finalGridOf sem c.renormalize c.hasFile (physOf s) := by
  rw [final_eq, finalFn, finalGridOf]; split <;> rfl

theorem runFor_grid (k : Nat) (s0 : MState V) :
    (runFor sem c k s0).grid = finalGridOf sem c.renormalize c.hasFile (physAt sem c s0 k) := by
  rw [runFor, final_grid, physOf_atHead]

/-! ### the records of a run as a function of the number of steps -/

/-- the record determined by a physical state -/
def recOf (sem : Sem V) (rn : Int) (p : Nat × V × V × List V) : MRec V := recAt sem rn p.1 p.2.1 p.2.2.1

theorem filter_range_succ (p : Nat → Bool) (n : Nat) : (List.range (n + 1)).filter p
    = (List.range n).filter p ++ (if p n then [n] else []) := by
  rw [List.range_succ, List.filter_append]
  cases h : p n <;> simp [h]

theorem body_recs : (bodyFn sem c s).file.recs
    = s.file.recs ++ if wr c s.step then [recOf sem c.renormalize (physOf s)] else [] := by
  show (if _ then _ else _ : MFile V).recs = _
  split <;> simp [emit, recOf, physOf]

theorem final_recs : (finalFn sem c s).file.recs
    = s.file.recs ++ if c.hasFile then [recOf sem c.renormalize (physOf s)] else [] := by
  unfold finalFn
  split <;> simp [emit, recOf, physOf]

/-- the steps for which a run of `k` steps writes a record: the output steps inside the loop and (with a
    results file) the final one -/
def outSteps (c : MCfg) (k : Nat) : List Nat := (List.range k).filter (wr c) ++ if c.hasFile then [k] else []

/-- the time-indexed records of a run: for each of its output steps the record of the physical state
    of that step -/
theorem runFor_recs (k : Nat) (s0 : MState V) (h0 : s0.file.recs = []) :
    (runFor sem c k s0).file.recs
      = (outSteps c k).map fun i => recOf sem c.renormalize (physAt sem c s0 i) := by
  have key : ∀ k, (iterate sem c k (execBlock sem c initialBlock s0)).file.recs
      = ((List.range k).filter (wr c)).map fun i => recOf sem c.renormalize (physAt sem c s0 i) := by
    intro k
    induction k with
    | zero => rw [iterate, init_eq]; exact h0
    | succ k ih =>
      rw [iterate_succ', body_recs, ih, atHead_step, physOf_atHead, filter_range_succ]
      cases wr c k <;> simp
  rw [runFor, final_eq, final_recs, key, physOf_atHead, outSteps]
  cases c.hasFile <;> simp

theorem runFor_recs_mem (k : Nat) (s0 : MState V) (h0 : s0.file.recs = []) (r : MRec V)
    (hr : r ∈ (runFor sem c k s0).file.recs) : r = recOf sem c.renormalize (physAt sem c s0 r.t) := by
  rw [runFor_recs sem c k s0 h0, List.mem_map] at hr
  obtain ⟨i, -, rfl⟩ := hr
  rw [show (recOf sem c.renormalize (physAt sem c s0 i)).t = i from physAt_fst sem c s0 i]

theorem body_ps : (bodyFn sem c s).file.ps = s.file.ps ++
    if wr c s.step && isSaveAll c s.outnr then [(s.step, (recOf sem c.renormalize (physOf s)).ghostGrid)] else [] := by
  show (if _ then _ else _ : MFile V).ps = _
  cases wr c s.step <;> cases isSaveAll c s.outnr <;> simp [emit, recOf, recAt, physOf]

theorem final_ps : (finalFn sem c s).file.ps = s.file.ps ++
    if c.hasFile then [(s.step, (recOf sem c.renormalize (physOf s)).ghostGrid)] else [] := by
  unfold finalFn
  split <;> simp [emit, recOf, recAt, physOf]

/-- the stored phase spaces: the start grid (saved before the loop when `h5save = 0`), then the
    grids of some of the records, in order -/
theorem runFor_ps (k : Nat) (s0 : MState V) (h0 : s0.file.ps = []) :
    List.Sublist (runFor sem c k s0).file.ps
      ((if c.hasFile && decide (c.h5save = 0) then [(0, s0.grid)] else []) ++
      (outSteps c k).map fun i => (i, (recOf sem c.renormalize (physAt sem c s0 i)).ghostGrid)) := by
  have key : ∀ k, List.Sublist (iterate sem c k (execBlock sem c initialBlock s0)).file.ps
      ((if c.hasFile && decide (c.h5save = 0) then [(0, s0.grid)] else []) ++
      ((List.range k).filter (wr c)).map fun i => (i, (recOf sem c.renormalize (physAt sem c s0 i)).ghostGrid)) := by
    intro k
    induction k with
    | zero =>
      rw [iterate, init_eq]
      simp only [initFn, h0]
      split <;> simp
    | succ k ih =>
      rw [iterate_succ', body_ps, atHead_step, physOf_atHead, filter_range_succ, List.map_append,
        ← List.append_assoc]
      refine ih.append ?_
      cases wr c k <;> simp
      split <;> simp
  rw [runFor, final_eq, final_ps, atHead_step, physOf_atHead, outSteps, List.map_append, ← List.append_assoc]
  refine (key k).append ?_
  cases c.hasFile <;> simp

/-! ### a concrete semantics for the refutations: `normalize` rounds the grid value down to a
    multiple of 10 (idempotent, like a real renormalisation), the wake kick adds ten times the
    wake, everything else is the identity -/

def cexSem : Sem Nat :=
  { xproj := id, yproj := id, integ := id, normalize := fun g _ => g / 10 * 10, mom0 := fun a _ => a,
    mom1 := fun a _ => a, wake := id, wakepad := id, csr := id, kick := fun g w => g + 10 * w,
    ident := id, rfStatic := id, rfDyn := fun g _ => g, drift := id, fp := id, track := fun _ t _ => t }

/-- renormalisation at every step, output at every step, wake, results file, static RF -/
def cexCfg : MCfg :=
  { laststep := 1, outstep := 1, h5save := 0, renormalize := 1, hasWake := true, hasFile := true,
    hasDrfm := false }

/-! ### the RF modulation queue -/

theorem physAt_queue (hd : c.hasDrfm = true) (s0 : MState V) (k : Nat) :
    (physAt sem c s0 k).2.2.2 = s0.rfNext.drop k := by
  induction k with
  | zero => rfl
  | succ k ih =>
    show (if c.hasDrfm then (physAt sem c s0 k).2.2.2.tail else _) = _
    rw [hd, ih]; simp

theorem head?_toList_append_tail (l : List V) : l.head?.toList ++ l.tail = l := by
  cases l <;> rfl

theorem atHead_rfNext (hd : c.hasDrfm = true) (k : Nat) (s0 : MState V) :
    (iterate sem c k (execBlock sem c initialBlock s0)).rfNext = s0.rfNext.drop k :=
  (congrArg (·.2.2.2) (physOf_atHead sem c k s0)).trans (physAt_queue sem c hd s0 k)

/-- the rows of `/RFKicks/data` are the queue entries used: what has been flushed to the file, what is
    held back and what is still queued make up the queue the run started with -/
theorem runFor_rfk (hd : c.hasDrfm = true) (hf : c.hasFile = true) (k : Nat) (s0 : MState V)
    (h0 : s0.file.rfk = [] ∧ s0.rfPast = []) :
    (runFor sem c k s0).file.rfk = s0.rfNext.take k := by
  have h : (runFor sem c k s0).file.rfk ++ (runFor sem c k s0).rfNext = s0.rfNext := by
    refine runFor_inv sem c (fun s => s.file.rfk ++ s.rfPast ++ s.rfNext = s0.rfNext)
      (fun s => s.file.rfk ++ s.rfNext = s0.rfNext) s0 ?_ ?_ ?_ k
    · simp [initFn, h0]
    · intro s h
      cases hw : wr c s.step <;> simp [bodyFn, emit, hd, hw, ← h, head?_toList_append_tail]
    · intro s h
      simpa [finalFn, hf, hd, emit] using h
  have hn : (runFor sem c k s0).rfNext = s0.rfNext.drop k := by
    rw [← atHead_rfNext sem c hd, runFor, final_eq, finalFn]; split <;> rfl
  rw [hn] at h
  exact List.append_cancel_right (h.trans (List.take_append_drop k s0.rfNext).symm)

/-! ### static RF without renormalisation: the grid evolves by a function of itself -/

/-- one step of the grid without renormalisation and with a static RF map -/
def gStep (sem : Sem V) (hw : Bool) (g : V) : V :=
  sem.fp (sem.drift (sem.rfStatic (if hw then sem.kick g (sem.wake (sem.xproj g)) else sem.ident g)))

def gIter (sem : Sem V) (hw : Bool) : Nat → V → V
  | 0, g => g
  | k + 1, g => gStep sem hw (gIter sem hw k g)

theorem gIter_add (hw : Bool) (a b : Nat) (g : V) :
    gIter sem hw (a + b) g = gIter sem hw b (gIter sem hw a g) := by
  induction b with
  | zero => rfl
  | succ b ih => rw [← Nat.add_assoc, gIter, ih]; rfl

theorem physAt_static (hr : c.renormalize ≤ 0) (hd : c.hasDrfm = false) (s0 : MState V) (k : Nat) :
    (physAt sem c s0 k).2.1 = gIter sem c.hasWake k s0.grid := by
  induction k with
  | zero => rfl
  | succ k ih =>
    have hx := physAt_xp sem c s0 k
    rw [gIter, ← ih]
    simp [physAt, physIter, physStep, stepGrid, gridR, rfGrid, gStep, isRenorm_nonpos hr, hd] at hx ⊢
    rw [hx]

theorem runFor_grid_static (hr : c.renormalize ≤ 0) (hd : c.hasDrfm = false) (k : Nat) (s0 : MState V) :
    (runFor sem c k s0).grid = gIter sem c.hasWake k s0.grid := by
  rw [runFor_grid, ← physAt_static sem c hr hd]
  simp [finalGridOf, gridR, isRenorm_nonpos hr]

end Inovesa
