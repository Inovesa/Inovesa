/-
  Arithmetic of the flattened array layout (`boost::multi_array` in C order: cell `(b, x, y)` of an `nb × n × m`
  array lives at `b*n*m + x*m + y`) and of 32-bit unsigned wrap-around.  Core only, so that the Mathlib-free tie
  modules can use it.
-/
import InovesaModel.Model.KickMap
namespace Inovesa

/-- a cell of a two-level array lies inside it -/
theorem flat_lt {x y m n : Nat} (hx : x < m) (hy : y < n) : x * n + y < m * n :=
  calc x * n + y < x * n + n := Nat.add_lt_add_left hy _
    _ = (x + 1) * n := (Nat.succ_mul x n).symm
    _ ≤ m * n := Nat.mul_le_mul_right n hx

/-- a cell of a three-level array lies inside it -/
theorem flat3_lt {b x y nb n m : Nat} (hb : b < nb) (hx : x < n) (hy : y < m) :
    b * n * m + x * m + y < nb * n * m := by
  rw [← Nat.add_mul]
  exact flat_lt (flat_lt hb hx) hy

/-- the leading index is recovered by division -/
theorem flat_div {x y n : Nat} (hy : y < n) : (x * n + y) / n = x := by
  rw [Nat.add_comm, Nat.add_mul_div_right _ _ (Nat.zero_lt_of_lt hy), Nat.div_eq_of_lt hy, Nat.zero_add]

/-- `uint32` subtraction followed by the test `< n` is the signed test `0 ≤ a - c < n`: a negative
    difference wraps to at least `2^32 - c ≥ n` -/
theorem wrap_sub_lt_iff {a c n : Nat} (ha : a < W32) (hc : c + n ≤ W32) :
    (a + W32 - c) % W32 < n ↔ c ≤ a ∧ a - c < n := by
  unfold W32 at *; omega

/-- `a - c` in 32-bit unsigned arithmetic when it does not wrap -/
theorem wrap_sub {a c : Nat} (hc : c ≤ a) (ha : a < W32) : (a + W32 - c) % W32 = a - c := by
  rw [Nat.add_comm, Nat.add_sub_assoc hc, Nat.add_mod_left, Nat.mod_eq_of_lt (by omega)]

end Inovesa
