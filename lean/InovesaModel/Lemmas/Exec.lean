/- what the interpreter of the main program does, statement by statement -/
import InovesaModel.Model.MainProgram
namespace Inovesa
open Gen

variable {V : Type} (sem : Sem V) (c : MCfg) (s : MState V)

/-! ### blocks and statements -/

@[simp] theorem execBlock_nil : execBlock sem c [] s = s := rfl
@[simp] theorem execBlock_cons (st : MStmt) (b : List MStmt) :
    execBlock sem c (st :: b) s = execBlock sem c b (execStmt sem c st s) := rfl
@[simp] theorem execStmt_call (name : String) : execStmt sem c (.call name) s = execCall sem c name s := rfl
@[simp] theorem execStmt_ite (cnd : MCond) (t e : List MStmt) : execStmt sem c (.ite cnd t e) s
    = if condHolds c s cnd then execBlock sem c t s else execBlock sem c e s := rfl

/-! ### guards -/

/-- the observation schedule as a function of the counters only -/
def isOut (c : MCfg) (n : Nat) : Bool := decide (c.outstep > 0) && decide (n % c.outstep = 0)
def isRenorm (rn : Int) (n : Nat) : Bool := decide (rn > 0) && decide ((n : Int) % rn = 0)
def isSaveAll (c : MCfg) (n : Nat) : Bool := decide (c.h5save > 0) && decide (n % c.h5save = 0)

@[simp] theorem condHolds_hasWake : condHolds c s .hasWake = c.hasWake := rfl
@[simp] theorem condHolds_hasWakeField : condHolds c s .hasWakeField = c.hasWake := rfl
@[simp] theorem condHolds_hasFile : condHolds c s .hasFile = c.hasFile := rfl
@[simp] theorem condHolds_hasDrfm : condHolds c s .hasDrfm = c.hasDrfm := rfl
@[simp] theorem condHolds_h5saveZero : condHolds c s .h5saveZero = decide (c.h5save = 0) := rfl
@[simp] theorem condHolds_outNow : condHolds c s .outNow = isOut c s.step := rfl
@[simp] theorem condHolds_renormNow : condHolds c s .renormNow = isRenorm c.renormalize s.step := rfl
@[simp] theorem saveAllNow_eq : saveAllNow c s = isSaveAll c s.outnr := rfl

/-! ### calls

Each lemma is the equation of `execCall` for its name, whose first step (the clock tick of an interrupt-point marker) does
nothing because the name does not start with `ip:`. -/

@[simp] theorem call_xproj : execCall sem c "grid.updateXProjection" s = { s with xp := sem.xproj s.grid } := by
  rw [execCall, if_neg (by simp)]
@[simp] theorem call_yproj : execCall sem c "grid.updateYProjection" s = { s with yp := sem.yproj s.grid } := by
  rw [execCall, if_neg (by simp)]
@[simp] theorem call_integrate : execCall sem c "grid.integrate" s = { s with fil := sem.integ s.xp } := by
  rw [execCall, if_neg (by simp)]
@[simp] theorem call_integrateAndNormalize : execCall sem c "grid.integrateAndNormalize" s
    = { s with fil := sem.integ s.xp, grid := sem.normalize s.grid (sem.integ s.xp) } := by
  rw [execCall, if_neg (by simp)]
@[simp] theorem call_variance0 : execCall sem c "grid.variance0" s = { s with m0 := sem.mom0 s.xp s.fil } := by
  rw [execCall, if_neg (by simp)]
@[simp] theorem call_variance1 : execCall sem c "grid.variance1" s = { s with m1 := sem.mom1 s.yp s.fil } := by
  rw [execCall, if_neg (by simp)]
@[simp] theorem call_wkm_update : execCall sem c "wkm.update" s
    = { s with wk := sem.wake s.xp, wpad := sem.wakepad s.xp } := by
  rw [execCall, if_neg (by simp)]
@[simp] theorem call_wakePotential : execCall sem c "wakefield.wakePotential" s
    = { s with wpad := sem.wakepad s.xp } := by
  rw [execCall, if_neg (by simp)]
@[simp] theorem call_appendPadded : execCall sem c "file.appendPadded" s
    = { s with file := { s.file with padded := s.file.padded ++ [s.wpad] } } := by
  rw [execCall, if_neg (by simp)]
@[simp] theorem call_appendPS0 : execCall sem c "file.appendGrid.PhaseSpace0" s
    = { s with file := { s.file with ps := s.file.ps ++ [(0, s.grid)] } } := by
  rw [execCall, if_neg (by simp)]
@[simp] theorem call_appendGrid_at : execCall sem c "file.appendGrid.at" s
    = { s with file := { s.file with
          ps := if isSaveAll c s.outnr then s.file.ps ++ [(s.step, s.grid)] else s.file.ps,
          recs := s.file.recs ++ [mkRec s] } } := by
  rw [execCall, if_neg (by simp), saveAllNow_eq]
  cases isSaveAll c s.outnr <;> rfl
@[simp] theorem call_appendGrid_All : execCall sem c "file.appendGrid.All" s
    = { s with file := { s.file with ps := s.file.ps ++ [(s.step, s.grid)], recs := s.file.recs ++ [mkRec s] } } := by
  rw [execCall, if_neg (by simp)]
@[simp] theorem call_updateCSR : execCall sem c "rdtn.updateCSR" s = { s with csrv := sem.csr s.xp } := by
  rw [execCall, if_neg (by simp)]
@[simp] theorem call_appendCSR : execCall sem c "file.appendCSR" s
    = { s with file := { s.file with csr := s.file.csr ++ [s.csrv] } } := by
  rw [execCall, if_neg (by simp)]
@[simp] theorem call_appendWake : execCall sem c "file.appendWake" s
    = { s with file := { s.file with wake := s.file.wake ++ [s.wk] } } := by
  rw [execCall, if_neg (by simp)]
@[simp] theorem call_appendTracks : execCall sem c "file.appendTracks" s
    = { s with file := { s.file with tracks := s.file.tracks ++ [s.tracks] } } := by
  rw [execCall, if_neg (by simp)]
@[simp] theorem call_appendRFKicks : execCall sem c "file.appendRFKicks" s
    = { s with file := { s.file with rfk := s.file.rfk ++ s.rfPast }, rfPast := [] } := by
  rw [execCall, if_neg (by simp)]
@[simp] theorem call_wm_apply : execCall sem c "wm.apply" s
    = { s with grid := if c.hasWake then sem.kick s.grid s.wk else sem.ident s.grid } := by
  rw [execCall, if_neg (by simp)]
@[simp] theorem call_wm_track : execCall sem c "wm.track" s = { s with tracks := sem.track "wm" s.tracks s.wk } := by
  rw [execCall, if_neg (by simp)]
/-- the RF kick of the grid: the next queue entry with a dynamic map (nothing if the queue is
    exhausted), the static map otherwise -/
def rfGrid (sem : Sem V) (hd : Bool) (g : V) (q : List V) : V :=
  if hd then (match q with | r :: _ => sem.rfDyn g r | [] => g) else sem.rfStatic g
@[simp] theorem call_rfm_apply : execCall sem c "rfm.apply" s
    = { s with grid := rfGrid sem c.hasDrfm s.grid s.rfNext,
               rfNext := if c.hasDrfm then s.rfNext.tail else s.rfNext,
               rfPast := if c.hasDrfm then s.rfPast ++ s.rfNext.head?.toList else s.rfPast } := by
  rw [execCall, if_neg (show ¬"rfm.apply".startsWith "ip:" = true by simp)]
  cases c.hasDrfm
  · rfl
  · cases s with | mk _ _ _ _ _ _ _ _ _ _ _ _ q _ _ _ =>
    cases q with
    | nil => simp [rfGrid]
    | cons => rfl
@[simp] theorem call_rfm_track : execCall sem c "rfm.track" s = { s with tracks := sem.track "rfm" s.tracks s.wk } := by
  rw [execCall, if_neg (by simp)]
@[simp] theorem call_drm_apply : execCall sem c "drm.apply" s = { s with grid := sem.drift s.grid } := by
  rw [execCall, if_neg (by simp)]
@[simp] theorem call_drm_track : execCall sem c "drm.track" s = { s with tracks := sem.track "drm" s.tracks s.wk } := by
  rw [execCall, if_neg (by simp)]
@[simp] theorem call_fpm_apply : execCall sem c "fpm.apply" s = { s with grid := sem.fp s.grid } := by
  rw [execCall, if_neg (by simp)]
@[simp] theorem call_fpm_track : execCall sem c "fpm.track" s = { s with tracks := sem.track "fpm" s.tracks s.wk } := by
  rw [execCall, if_neg (by simp)]
@[simp] theorem call_step_pp : execCall sem c "step++" s = { s with step := s.step + 1 } := by
  rw [execCall, if_neg (by simp)]
@[simp] theorem call_outnr_pp : execCall sem c "outnr++" s = { s with outnr := s.outnr + 1 } := by
  rw [execCall, if_neg (by simp)]
@[simp] theorem call_decl_outstepnr : execCall sem c "decl.outstepnr" s = { s with outnr := 0 } := by
  rw [execCall, if_neg (by simp)]
@[simp] theorem call_decl_simulationstep : execCall sem c "decl.simulationstep" s = { s with step := 0 } := by
  rw [execCall, if_neg (by simp)]

/-- an interrupt-point marker only advances the clock: no name the `match` of `execCall` knows
    starts with `ip:` -/
@[simp] theorem execCall_ip {name : String} (h : name.startsWith "ip:" = true) :
    execCall sem c name s = { s with clock := s.clock + 1 } := by
  unfold execCall
  simp only [h, ↓reduceIte]
  -- the default case is the claim; in every other case `name` is a literal that contradicts `h`
  split <;> first | rfl | exact absurd h (by decide +kernel)

/-- prints and the declarations without effect on the modelled state -/
@[simp] theorem execCall_skip {name : String} (h : name ∈ ["decl.updatetime", "print.status", "decl.h5save", "decl.at"]) :
    execCall sem c name s = s := by
  simp only [List.mem_cons, List.not_mem_nil, or_false] at h
  rcases h with rfl | rfl | rfl | rfl <;> simp [execCall]

end Inovesa
