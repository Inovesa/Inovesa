/-
  C18 — wake and CSR spectrum depend on the current profile only, not on past calls.
  State machine of Model/ElectricField.lean (buffers of `ElectricField`, code after the
  buffer-clearing fix), arbitrary library transforms `t` (any functions!) under the single
  assumption `ClobOK`: the complex-to-real transform may overwrite entries `k < nmax/2` of
  its input buffer but leaves the entries `k ≥ nmax/2` alone (trusted-base assumption about
  FFTW, validated empirically by the correspondence check).
-/
import InovesaModel.Lemmas.EF
namespace Inovesa.Props.C18
open Inovesa

variable {α : Type} [Field α]

/-- assumption on what c2r does to its input buffer -/
def ClobOK (nmax : Nat) (t : Transforms α) : Prop :=
  ∀ (xs : Nat → Cx α) (k : Nat), nmax / 2 ≤ k → t.clob xs k = xs k

/-- buffer invariant: the parts of the complex work buffers that no call rewrites are
    still the zeros of the allocation -/
def Inv (c : EFConst α) (s : EFState α) : Prop :=
  (∀ k, c.nmax / 2 < k → s.ff k = ((0 : α), (0 : α))) ∧
  (∀ k, c.nmax / 2 ≤ k → s.wl k = ((0 : α), (0 : α)))

theorem fresh_inv (c : EFConst α) : Inv c (EFState.fresh : EFState α) :=
  ⟨fun _ _ => ef_czero, fun _ _ => ef_czero⟩

/-- frame: no operation rewrites the part of the complex work buffers that the invariant speaks of -/
theorem efStep_frame (c : EFConst α) (t : Transforms α) (hc : ClobOK c.nmax t) (s : EFState α) (op : EFOp α) :
    (∀ k, c.nmax / 2 < k → (efStep c t s op).ff k = s.ff k) ∧
    (∀ k, c.nmax / 2 ≤ k → (efStep c t s op).wl k = s.wl k) := by
  cases op with
  | wake p =>
    exact ⟨fun k hk => if_neg (Nat.not_le_of_gt hk), fun k hk => (hc _ k hk).trans (if_neg (Nat.not_lt_of_ge hk))⟩
  | pad p => exact ⟨fun _ _ => rfl, fun _ _ => rfl⟩
  | csr p => exact ⟨(csr_fold c t p s c.nb).1, fun k _ => congrFun (csr_fold c t p s c.nb).2.1 k⟩

theorem step_preserves_inv (c : EFConst α) (t : Transforms α) (hc : ClobOK c.nmax t)
    (s : EFState α) (op : EFOp α) (h : Inv c s) : Inv c (efStep c t s op) :=
  have f := efStep_frame c t hc s op
  ⟨fun k hk => (f.1 k hk).trans (h.1 k hk), fun k hk => (f.2 k hk).trans (h.2 k hk)⟩

/-- every reachable state satisfies the invariant -/
theorem run_inv (c : EFConst α) (t : Transforms α) (hc : ClobOK c.nmax t)
    (hist : List (EFOp α)) : Inv c (efRun c t hist EFState.fresh) := by
  suffices h : ∀ s, Inv c s → Inv c (efRun c t hist s) from h _ (fresh_inv c)
  induction hist with
  | nil => exact fun _ h => h
  | cons op ops ih => exact fun s h => ih _ (step_preserves_inv c t hc s op h)

/-- what a caller can observe after an operation: padded profiles; for `wake` also the wake
    potentials and the padded wake; for `csr` the spectra and powers of the `nb` bunches -/
def SameObs (c : EFConst α) (op : EFOp α) (s s' : EFState α) : Prop :=
  s.bp = s'.bp ∧
  (match op with
   | .wake _ => s.wake = s'.wake ∧ s.wp = s'.wp
   | .pad _ => True
   | .csr _ => (∀ b, b < c.nb → ∀ i, s.spec b i = s'.spec b i) ∧ (∀ b, b < c.nb → s.pow b = s'.pow b))

/-- the results of an operation depend on the state before it only through that same part of the work buffers -/
theorem efStep_obs (c : EFConst α) (t : Transforms α) (hnb : 0 < c.nb) (s s' : EFState α)
    (hff : ∀ k, c.nmax / 2 < k → s.ff k = s'.ff k) (hwl : ∀ k, c.nmax / 2 ≤ k → s.wl k = s'.wl k)
    (op : EFOp α) : SameObs c op (efStep c t s op) (efStep c t s' op) := by
  cases op with
  | wake p =>
    have h := wakeIn_congr c t p s s' hwl
    exact ⟨rfl, congrArg (fun w b x => c.wakescaling * t.c2r w (c.bucket b * c.spacing + x)) h, congrArg t.c2r h⟩
  | pad p => exact ⟨rfl, trivial⟩
  | csr p =>
    have h := csrFF_congr c t p _ _ hff
    exact ⟨(efCSR_bp c t p s hnb).trans (efCSR_bp c t p s' hnb).symm,
      fun b hb i => (efCSR_spec c t p s b hb i).trans (h b ▸ (efCSR_spec c t p s' b hb i).symm),
      fun b hb => (efCSR_pow c t p s b hb).trans (h b ▸ (efCSR_pow c t p s' b hb).symm)⟩

/-- History independence: after ANY sequence of earlier operations on any profiles, the
    results of an operation equal those of a freshly constructed object. -/
theorem history_independent (c : EFConst α) (t : Transforms α) (hc : ClobOK c.nmax t)
    (hnb : 0 < c.nb) (hist : List (EFOp α)) (op : EFOp α) :
    SameObs c op (efStep c t (efRun c t hist EFState.fresh) op)
                 (efStep c t EFState.fresh op) := by
  obtain ⟨hff, hwl⟩ := run_inv c t hc hist
  obtain ⟨hff0, hwl0⟩ := fresh_inv c
  exact efStep_obs c t hnb _ _ (fun k hk => (hff k hk).trans (hff0 k hk).symm)
    (fun k hk => (hwl k hk).trans (hwl0 k hk).symm) op

/-- non-vacuity: the identity (input-preserving) transform satisfies the assumption -/
example (nmax : Nat) (r : (Nat → α) → Nat → Cx α) (i : (Nat → Cx α) → Nat → α) :
    ClobOK nmax ({ r2c := r, c2r := i, clob := id } : Transforms α) := by
  intro xs k _; rfl

end Inovesa.Props.C18
