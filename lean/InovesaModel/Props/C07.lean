/-
  C07 — CSR power equals the energy the wake takes from the beam and is never negative.
-/
import InovesaModel.Lemmas.EF
import InovesaModel.Props.C18
namespace Inovesa.Props.C07
open Inovesa Inovesa.Props.C18

section sign
variable {α : Type} [Field α] [LinearOrder α] [IsStrictOrderedRing α]

/-- For a passive impedance (Re Z ≥ 0) and non-negative frequency factor, every entry of
    the spectrum of every bunch is non-negative — for ANY forward transform. -/
theorem spectrum_nonneg (c : EFConst α) (t : Transforms α) (prof : Nat → Nat → α) (s : EFState α)
    (hz : ∀ i, 0 ≤ (c.z i).1) (hr : ∀ i, 0 ≤ c.renorm i) (b : Nat) (hb : b < c.nb) (i : Nat) :
    0 ≤ (efCSR c t prof s).spec b i := by
  rw [efCSR_spec c t prof s b hb]
  exact specOf_nonneg c _ hz hr i

/-- … and so is the integrated power -/
theorem power_nonneg (c : EFConst α) (t : Transforms α) (prof : Nat → Nat → α) (s : EFState α)
    (hz : ∀ i, 0 ≤ (c.z i).1) (hr : ∀ i, 0 ≤ c.renorm i) (hd : 0 ≤ c.dfreq)
    (b : Nat) (hb : b < c.nb) :
    0 ≤ (efCSR c t prof s).pow b := by
  rw [efCSR_pow c t prof s b hb]
  exact powOf_nonneg c _ hz hr hd

/-- a cutoff factor `0 ≤ f_i ≤ 1` per frequency makes the power smaller, never negative -/
theorem cutoff_le (c : EFConst α) (t : Transforms α) (prof : Nat → Nat → α) (s : EFState α)
    (f : Nat → α) (hf0 : ∀ i, 0 ≤ f i) (hf1 : ∀ i, f i ≤ 1)
    (hz : ∀ i, 0 ≤ (c.z i).1) (hr : ∀ i, 0 ≤ c.renorm i) (hd : 0 ≤ c.dfreq)
    (b : Nat) (hb : b < c.nb) :
    (efCSR { c with renorm := fun i => c.renorm i * f i } t prof s).pow b
      ≤ (efCSR c t prof s).pow b ∧
    0 ≤ (efCSR { c with renorm := fun i => c.renorm i * f i } t prof s).pow b := by
  rw [efCSR_pow { c with renorm := fun i => c.renorm i * f i } t prof s b hb, efCSR_pow c t prof s b hb]
  refine ⟨?_, powOf_nonneg _ _ hz (fun i => mul_nonneg (hr i) (hf0 i)) hd⟩
  rw [powOf_eq_finsum, powOf_eq_finsum]
  refine Finset.sum_le_sum fun i _ => ?_
  rw [specOf_cutoff]
  exact mul_le_mul_of_nonneg_left (mul_le_of_le_one_left (specOf_nonneg c _ hz hr i) (hf1 i)) hd

end sign

section parseval
variable {α : Type} [Field α] [CharZero α]

/-- form factor of a (padded) profile -/
def F (nmax : Nat) (tw : Nat → Cx α) (rho : Nat → α) (k : Nat) : Cx α := dftNaive nmax tw rho k

/-- Parseval pairing: one half of `Σ_x ρ_x·W_x` with `W` the unscaled wake of the same
    profile and impedance equals `½·Re Z₀·|F₀|² + Σ_{0<k<N/2, k ≤ (N-1)/2} Re Z_k·|F_k|²`.
    Needs only `tw 0 = 1`. -/
theorem parseval_pairing (nmax : Nat) (tw : Nat → Cx α) (z : Nat → Cx α) (rho : Nat → α)
    (htw0 : tw 0 = ((1 : α), (0 : α))) (hN : 2 ≤ nmax) :
    (1 / 2 : α) * ((List.range nmax).map fun x => rho x *
        c2rNaive nmax tw 2
          (fun k => if k < nmax / 2 then Cx.mul (z k) (F nmax tw rho k) else ((0 : α), (0 : α))) x).sum
      = (1 / 2 : α) * (z 0).1 * Cx.norm (F nmax tw rho 0)
        + ((List.range ((nmax + 1) / 2 - 1)).map fun k' =>
            (if k' + 1 < nmax / 2 then (z (k' + 1)).1 * Cx.norm (F nmax tw rho (k' + 1)) else 0)).sum := by
  have h0 : 0 < nmax / 2 := Nat.div_pos hN (by norm_num)
  show (1 / 2 : α) * ∑ x ∈ Finset.range nmax, rho x * c2rNaive nmax tw 2 (lossOf nmax z (dftNaive nmax tw rho)) x
    = _ + ∑ k' ∈ Finset.range ((nmax + 1) / 2 - 1), _
  simp only [pairing_general, nyqTerm_zero _ _ (lossOf_nyq nmax z _), mul_zero, Finset.sum_const_zero, add_zero,
    F, lossOf, h0, if_true]
  rw [mul_add]
  congr 1
  · rw [dftNaive_zero nmax tw rho htw0]
    simp only [Cx.mul, Cx.norm]
    ring
  · rw [Finset.mul_sum]
    refine Finset.sum_congr rfl fun k _ => ?_
    split <;> simp only [Cx.mul, Cx.norm] <;> ring

/-- The CSR power of a single bunch at offset 0 (no cutoff, `renorm` constant `r`) is
    `δf·r·Σ_{i<N} Re Z_i·|F_i|²` from a reachable state (only `i ≤ N/2` can contribute). -/
theorem csr_sum (c : EFConst α) (tw : Nat → Cx α) (prof : Nat → Nat → α) (s : EFState α)
    (h : Inv c s) (r : α) (hr : ∀ i, c.renorm i = r) (hnb : c.nb = 1) :
    (efCSR c (naiveTransforms c.nmax tw 2) prof s).pow 0
      = c.dfreq * r * ((List.range (c.nmax / 2 + 1)).map fun i =>
          (if i < c.nmax then (c.z i).1 * Cx.norm (F c.nmax tw (fun x => if x < c.n then prof 0 x else 0) i)
           else 0)).sum := by
  have hbuf : csrBuf c prof 0 = fun x => if x < c.n then prof 0 x else 0 := by
    funext x; simp [csrBuf]
  -- above `nmax/2` the form factor is still the zero of the allocation
  have key : ∀ i, c.dfreq * specOf c (csrFF c (naiveTransforms c.nmax tw 2) prof s.ff 0) i
      = if i ≤ c.nmax / 2 then c.dfreq * r * ((c.z i).1 *
          Cx.norm (dftNaive c.nmax tw (fun x => if x < c.n then prof 0 x else 0) i)) else 0 := by
    intro i
    unfold specOf csrFF
    rw [hr i, hbuf]
    split
    · simp only [naiveTransforms]; ring
    · next hi => rw [h.1 i (Nat.lt_of_not_le hi)]; simp [Cx.norm]
  rw [efCSR_pow c _ prof s 0 (by omega), powOf_eq_finsum, sum_map_range, Finset.mul_sum]
  simp only [key, F, mul_ite, mul_zero]
  rw [← Finset.sum_filter, ← Finset.sum_filter]
  refine Finset.sum_congr ?_ fun _ _ => rfl
  ext i
  simp only [Finset.mem_filter, Finset.mem_range]
  omega

end parseval

/-- non-vacuity: a passive impedance and non-negative factors exist -/
example : ∃ z : Nat → Cx ℚ, ∀ i, 0 ≤ (z i).1 := ⟨fun _ => (1, -1), fun _ => by norm_num⟩

end Inovesa.Props.C07
