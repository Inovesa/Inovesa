/-
  C06 — wake potential = discrete convolution of the bunch profiles with the impedance.
  Reference transforms = naive sums with a twiddle table `tw` (`naiveTransforms`); FFTW is
  assumed (and validated numerically by the correspondence check) to compute these sums.
-/
import InovesaModel.Lemmas.EF
import InovesaModel.Props.C18
import Mathlib.Tactic.IntervalCases
namespace Inovesa.Props.C06
open Inovesa Inovesa.Props.C18

variable {α : Type} [Field α]

/-- the wake potential as a function of the current profiles only: inverse transform of
    `Z ⊙ DFT(pad prof)` (impedance restricted to `k < N/2`), read back at the bunch position,
    times the scaling -/
def wakeOf (c : EFConst α) (tw : Nat → Cx α) (prof : Nat → Nat → α) (b x : Nat) : α :=
  c.wakescaling *
    c2rNaive c.nmax tw 2
      (fun k => if k < c.nmax / 2 then Cx.mul (c.z k) (dftNaive c.nmax tw (padProfiles c prof) k)
                else ((0 : α), (0 : α)))
      (c.bucket b * c.spacing + x)

theorem wakeOf_eq (c : EFConst α) (tw : Nat → Cx α) (prof : Nat → Nat → α) (b x : Nat) :
    wakeOf c tw prof b x = c.wakescaling * c2rNaive c.nmax tw 2
      (lossOf c.nmax c.z (dftNaive c.nmax tw (padProfiles c prof))) (c.bucket b * c.spacing + x) := rfl

/-- from a reachable state, whatever the transforms: the inverse transform is handed `Z·F` below Nyquist and zeros above -/
theorem wakeIn_of_inv (c : EFConst α) (t : Transforms α) (s : EFState α) (h : Inv c s) (prof : Nat → Nat → α) :
    wakeIn c t prof s = lossOf c.nmax c.z (t.r2c (padProfiles c prof)) := by
  rw [wakeIn_eq]
  funext k
  unfold lossOf
  split
  · rfl
  · next hk => exact h.2 k (Nat.le_of_not_lt hk)

/-- the state machine computes `wakeOf`, from any reachable state -/
theorem wake_is_spec (c : EFConst α) (tw : Nat → Cx α) (s : EFState α) (h : Inv c s)
    (prof : Nat → Nat → α) :
    (efWake c (naiveTransforms c.nmax tw 2) prof s).wake = wakeOf c tw prof := by
  rw [efWake_eq, wakeIn_of_inv c _ s h]
  rfl

/-- buckets whose windows `[bucket b·spacing, +n)` are pairwise disjoint: padding places
    every profile at its bucket position and zero everywhere else -/
theorem pad_places (c : EFConst α) (prof : Nat → Nat → α)
    (hdisj : ∀ b b', b < c.nb → b' < c.nb → b ≠ b' →
      c.bucket b * c.spacing + c.n ≤ c.bucket b' * c.spacing ∨
      c.bucket b' * c.spacing + c.n ≤ c.bucket b * c.spacing) :
    (∀ b x, b < c.nb → x < c.n → padProfiles c prof (c.bucket b * c.spacing + x) = prof b x) ∧
    (∀ i, (∀ b, b < c.nb → ¬ (c.bucket b * c.spacing ≤ i ∧ i < c.bucket b * c.spacing + c.n)) →
      padProfiles c prof i = 0) :=
  ⟨fun b x hb hx => padFold_inside c prof hdisj c.nb (Nat.le_refl _) b x hb hx, padFold_outside c prof c.nb⟩

/-- padding is linear in the profiles (also with overlapping windows) -/
theorem pad_linear (c : EFConst α) (p q : Nat → Nat → α) (a : α) (i : Nat) :
    padProfiles c (fun b x => a * p b x + q b x) i
      = a * padProfiles c p i + padProfiles c q i :=
  padFold_linear c p q a c.nb i

/-- the wake potential is linear in the profiles -/
theorem wake_linear (c : EFConst α) (tw : Nat → Cx α) (p q : Nat → Nat → α) (a : α) (b x : Nat) :
    wakeOf c tw (fun b x => a * p b x + q b x) b x = a * wakeOf c tw p b x + wakeOf c tw q b x := by
  simp only [wakeOf_eq]
  rw [funext (pad_linear c p q a), c2rNaive_linear c.nmax tw _ _ _ a
    (lossOf_linear c.nmax c.z _ _ _ a (dftNaive_linear c.nmax tw _ _ a))]
  ring

/-- only the impedance samples `k < N/2` (non-negative frequencies below Nyquist) enter -/
theorem half_spectrum (c c' : EFConst α) (tw : Nat → Cx α) (prof : Nat → Nat → α)
    (hsame : c' = { c with z := c'.z }) (hz : ∀ k, k < c.nmax / 2 → c.z k = c'.z k) (b x : Nat) :
    wakeOf c tw prof b x = wakeOf c' tw prof b x := by
  have hl : ∀ F, lossOf c.nmax c.z F = lossOf c.nmax c'.z F := fun F => funext fun k => by
    unfold lossOf
    split
    · next hk => rw [hz k hk]
    · rfl
  rw [hsame, wakeOf_eq, hl]
  rfl

/-- scaling: `_wakescaling·N = Ib·dt·c/(σ_z·ΔE_cell)` with `ΔE_cell = δ_p·σ_δ·E0` -/
theorem wake_scale (ib dt cl sz dp sd e0 nmax : α) (h1 : sz ≠ 0) (h2 : dp ≠ 0) (h3 : sd ≠ 0)
    (h4 : e0 ≠ 0) (h5 : nmax ≠ 0) :
    (ib * dt * cl / sz / (dp * sd * e0) / nmax) * nmax = ib * dt * cl / (sz * (dp * sd * e0)) := by
  field_simp

/-- Shift: if the twiddles obey the group law (`tw (a+b mod N) = tw a · tw b`, `tw 0 = 1`),
    cyclically shifting the padded train by `d` cells shifts the inverse transform of
    `Z ⊙ DFT` by `d` cells. -/
theorem wake_shift (nmax : Nat) (hN : 0 < nmax) (tw : Nat → Cx α) (z : Nat → Cx α)
    (htw0 : tw 0 = ((1 : α), (0 : α)))
    (htw : ∀ a b, a < nmax → b < nmax → tw ((a + b) % nmax) = Cx.mul (tw a) (tw b))
    (hunit : ∀ a, a < nmax → Cx.mul (tw a) (Cx.conj (tw a)) = ((1 : α), (0 : α)))
    (rho : Nat → α) (d : Nat) (hd : d < nmax) (x : Nat) (hx : x < nmax) :
    c2rNaive nmax tw 2
        (fun k => if k < nmax / 2 then
            Cx.mul (z k) (dftNaive nmax tw (fun i => rho ((i + nmax - d) % nmax)) k)
          else ((0 : α), (0 : α))) ((x + d) % nmax)
      = c2rNaive nmax tw 2
        (fun k => if k < nmax / 2 then Cx.mul (z k) (dftNaive nmax tw rho k)
          else ((0 : α), (0 : α))) x := by
  have hf : lossOf nmax z (dftNaive nmax tw fun i => rho ((i + nmax - d) % nmax))
      = fun k => Cx.mul (lossOf nmax z (dftNaive nmax tw rho) k) (tw (k * d % nmax)) := by
    rw [funext (dftNaive_shift nmax hN tw htw rho d hd)]
    exact lossOf_mul nmax z _ _
  exact (congrArg (c2rNaive nmax tw 2 · _) hf).trans
    (c2rNaive_shift nmax hN tw htw0 htw hunit _ (lossOf_nyq nmax z _) d x)

/-- non-vacuity of the twiddle hypotheses: N = 4 over ℚ with ω = -i -/
example : ∃ tw : Nat → Cx ℚ, tw 0 = (1, 0) ∧
    (∀ a b, a < 4 → b < 4 → tw ((a + b) % 4) = Cx.mul (tw a) (tw b)) := by
  refine ⟨fun n => if n = 0 then (1, 0) else if n = 1 then (0, -1) else if n = 2 then (-1, 0)
    else (0, 1), by simp, ?_⟩
  intro a b ha hb
  interval_cases a <;> interval_cases b <;> simp [Cx.mul]

end Inovesa.Props.C06
