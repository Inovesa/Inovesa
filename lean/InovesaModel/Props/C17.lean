/-
  C17 — no configuration or input file makes the program touch memory it does not own.

  What is proved here is the index arithmetic that decides whether the arrays are respected, for
  all sizes and inputs, on the GENERATED fragments
    * Gen/Sizes.lean      (buffer lengths of main(), translator G4),
    * Gen/FPStencil.lean  (Fokker–Planck constructor incl. the clamp of the switch row, G2),
  and on the hand models tied by correspondence (KickMap::updateSM/apply, Impedance::operator+=,
  Impedance::readData, upper_power_of_two).  Memory safety of the compiled program itself (allocation,
  library calls, HDF5) is not a statement about these models: it is searched with sanitizer builds
  by the check (see DESIGN.md, C17: partial).
-/
import InovesaModel.Lemmas.FP
import InovesaModel.Lemmas.Kick
import InovesaModel.Model.Impedance
import InovesaModel.Gen.Sizes
import InovesaModel.Props.C01FP
import InovesaModel.Lemmas.Safe
import Mathlib.Algebra.Order.Floor.Ring
import Mathlib.Data.Rat.Floor
import Mathlib.Tactic.Linarith
namespace Inovesa.Props.C17
open Inovesa Inovesa.Gen

/-! ### padded profile train: every bucket window lies inside the buffer -/

/-- `upper_power_of_two` never returns less than its argument (for 1 ≤ v ≤ 2^63) -/
theorem upperPow2_ge (v : Nat) (h1 : 1 ≤ v) (h2 : v ≤ 2 ^ 63) : v ≤ upperPow2 v := by
  unfold upperPow2
  have hw : (v + 2 ^ 64 - 1) % 2 ^ 64 = v - 1 := by omega
  simp only [hw]
  have b0 : v - 1 < 2 ^ 63 := by omega
  have l1 := Nat.left_le_or (n := v - 1) (m := (v - 1) >>> 1)
  have b1 := or_shift_lt _ 1 b0
  generalize (v - 1) ||| ((v - 1) >>> 1) = w1 at *
  have l2 := Nat.left_le_or (n := w1) (m := w1 >>> 2)
  have b2 := or_shift_lt _ 2 b1
  generalize w1 ||| (w1 >>> 2) = w2 at *
  have l3 := Nat.left_le_or (n := w2) (m := w2 >>> 4)
  have b3 := or_shift_lt _ 4 b2
  generalize w2 ||| (w2 >>> 4) = w3 at *
  have l4 := Nat.left_le_or (n := w3) (m := w3 >>> 8)
  have b4 := or_shift_lt _ 8 b3
  generalize w3 ||| (w3 >>> 8) = w4 at *
  have l5 := Nat.left_le_or (n := w4) (m := w4 >>> 16)
  have b5 := or_shift_lt _ 16 b4
  generalize w4 ||| (w4 >>> 16) = w5 at *
  have l6 := Nat.left_le_or (n := w5) (m := w5 >>> 32)
  have b6 := or_shift_lt _ 32 b5
  generalize w5 ||| (w5 >>> 32) = w6 at *
  omega

/-- Multi-bucket runs: for every entry `k` of the filling pattern the window
    `[bucket*spacing, bucket*spacing + grid)` that `padBunchProfiles` writes and `wakePotential`
    reads lies inside the padded buffer, whose length is the number of samples of the wake
    impedance.  For every grid size, bucket count, spacing (any rational, overlapping or not),
    padding and rounding option; `up2` any function that does not decrease its argument. -/
theorem pad_fits_multi (i : SizeIn) (up2 : Nat → Nat) (hup : ∀ v, v ≤ up2 v)
    (hnb : 1 < i.nbuckets) (k : Nat) (hk : k < i.nbuckets) :
    bucketNumber i k * (sizes i up2).wakeSpacing + i.psBins ≤ (sizes i up2).wakeLength := by
  have _ := hk
  simp only [sizes, bucketNumber]
  have hd : decide (i.nbuckets > 1) = true := by simpa using hnb
  rw [hd]
  simp only [if_true]
  generalize ratToNat (ratRound (((i.psBins : Nat) : Rat) * i.spacingPs)) = s
  generalize ratToNat (ratCeil ((((i.psBins * i.nbuckets) : Nat) : Rat) * i.spacingPs)) = c
  have h1 : (i.nbuckets - 1 - k) * s ≤ (i.nbuckets - 1) * s :=
    Nat.mul_le_mul_right _ (Nat.sub_le _ _)
  have h2 : (i.nbuckets - 1) * s + i.psBins ≤ max c ((i.nbuckets - 1) * s + i.psBins) :=
    le_max_right _ _
  split_ifs
  · exact le_trans (by omega) (hup _)
  · omega

/-- Single-bucket runs: the only bucket has number 0 and the buffer has at least grid length. -/
theorem pad_fits_single (i : SizeIn) (up2 : Nat → Nat) (hup : ∀ v, v ≤ up2 v)
    (hnb : i.nbuckets = 1) (k : Nat) (hk : k < i.nbuckets) :
    bucketNumber i k * (sizes i up2).wakeSpacing + i.psBins ≤ (sizes i up2).wakeLength := by
  simp only [sizes, bucketNumber]
  have hd : decide (i.nbuckets > 1) = false := by simp [hnb]
  rw [hd]
  have hk0 : i.nbuckets - 1 - k = 0 := by omega
  rw [hk0]
  simp only [Nat.zero_mul, Nat.zero_add, Bool.false_eq_true, if_false]
  have h := psBins_le_padded i.psBins i.optPadding
  split_ifs
  · exact le_trans h (hup _)
  · exact h

/-- the length `ceil(bins*buckets*spacing)` used before the fix "padded profile train is long
    enough for the rounded bunch spacing" does not suffice: 5 buckets, 32 cells, spacing 32.55 cells -/
theorem old_length_too_short :
    let n : Nat := 32; let nb : Nat := 5; let s : Rat := 3255 / 3200
    ¬ ((nb - 1) * ratToNat (ratRound ((n : Rat) * s)) + n ≤ ratToNat (ratCeil (((n * nb : Nat) : Rat) * s))) := by
  decide +kernel

/-- non-vacuity / executable instance: the same configuration with the generated code -/
example : (sizes { psBins := 32, nbuckets := 5, spacingPs := 3255 / 3200, optPadding := 2,
                   roundPadding := false } id).wakeLength = 164 := by
  decide +kernel

/-! ### Fokker–Planck table: all positions of the zero-energy row -/

section fp
variable {α : Type} [Field α] [LinearOrder α] [IsStrictOrderedRing α] [FloorRing α]

instance : MinMax α := ⟨fun a b => if b < a then b else a, fun a b => if a < b then b else a⟩

/-- the generated constructor clamps the switch row to `[1, n-2]`, wherever the zero bin is -/
theorem ycenter_in_range (n : Nat) (hn : 3 ≤ n) (zb : α) :
    (1 : α) ≤ fpYcenter n zb ∧ fpYcenter n zb ≤ ((n - 2 : Nat) : α) := by
  have h1 : (1 : α) ≤ ((n - 2 : Nat) : α) := Nat.one_le_cast.mpr (by omega)
  simp only [fpYcenter, fpYcenterClamp, MinMax.min, MinMax.max, ite_lt_eq_min, ite_lt_eq_max,
    Nat.cast_one]
  exact ⟨le_min (le_max_right _ _) h1, min_le_right _ _⟩

/-- integer part and loop test of the constructor for a given `ycenter` -/
def jcOf (yc : α) : Nat := ⌊yc⌋₊
def ltycOf (yc : α) : Nat → Bool := fun j => decide ((j : α) < yc)

/-- every table row of both stencils holds source indices inside the line, for EVERY position of
    the zero bin (grid shifts of any size), every Fokker–Planck variant and parameter -/
theorem fp_reads_in_bounds (dt fptype n : Nat) (hdt : dt = 3 ∨ dt = 4) (hn : 4 ≤ n) (hn' : n < 2 ^ 31)
    (zb e1 delta : α) (p : Nat → α) (y : Nat) (hy : y < n) :
    ∀ h ∈ fpRowAt dt fptype n (jcOf (fpYcenter n zb)) (ltycOf (fpYcenter n zb)) e1 delta p y, h.1 < n := by
  obtain ⟨hlo, _⟩ := ycenter_in_range n (by omega) zb
  rcases hdt with rfl | rfl
  · exact C01FP.fp3_indices_in_range fptype n _ _ (by omega) hn' e1 delta p y hy
  · refine C01FP.fp4_indices_in_range fptype n _ _ hn hn' ?_ ?_ e1 delta p y hy
    · unfold jcOf
      exact Nat.le_floor (by exact_mod_cast hlo)
    · intro j hj
      unfold jcOf at hj
      simp only [ltycOf, decide_eq_true_eq]
      exact Nat.lt_of_lt_floor hj

/-- … and every statement of the constructor writes a row of the table that exists -/
theorem fp_writes_in_table (dt n : Nat) (hn : 4 ≤ n) (hn' : n < 2 ^ 31) (zb : α) (j : Nat)
    (w : FPWriter) (hw : w ∈ fpWriters dt)
    (hc : w.covers n (jcOf (fpYcenter n zb)) (ltycOf (fpYcenter n zb)) j = true) : j < n := by
  obtain ⟨_, hhi⟩ := ycenter_in_range n (by omega) zb
  have p1 := pos_fromEnd n (jcOf (fpYcenter n zb)) 1 (by omega) hn'
  have p2 := pos_fromEnd n (jcOf (fpYcenter n zb)) 2 (by omega) hn'
  unfold fpWriters at hw
  split at hw
  · simp only [List.mem_cons, List.not_mem_nil, or_false] at hw
    rcases hw with rfl | rfl | rfl
    · rw [covers_row, pos_const] at hc; omega
    · rw [covers_loop_fromEnd, p1] at hc; omega
    · rw [covers_row, p1] at hc; omega
  · simp only [List.mem_cons, List.not_mem_nil, or_false] at hw
    rcases hw with rfl | rfl | rfl | rfl | rfl | rfl
    · rw [covers_row, pos_const] at hc; omega
    · rw [covers_row, pos_const] at hc; omega
    · rw [covers_loop_ltYc] at hc
      have h2 : (j : α) < fpYcenter n zb := by simpa [ltycOf] using hc.2
      have h3 : (j : α) < ((n - 2 : Nat) : α) := lt_of_lt_of_le h2 hhi
      have h4 : j < n - 2 := by exact_mod_cast h3
      omega
    · rw [covers_loop_fromEnd, p2] at hc; omega
    · rw [covers_row, p2] at hc; omega
    · rw [covers_row, p1] at hc; omega
  · simp at hw

/-- without the clamp (zero bin used as it is) the table may address cell `2^32 - 1`:
    the model-level witness is `C01FP.fp4_jc0_reads_outside` (zero bin below row 1). -/
example : jcOf (0 : ℚ) = 0 := by simp [jcOf]

end fp

/-! ### kick maps: displacements of any size, sign, or NaN -/

section kick
variable {α : Type} [Arith α] [NatCast α] [ModF α]

/-- whatever `modf` answers, the row is one that `smRowOf` builds -/
theorem smRow_eq (n it : Nat) (off : α) : ∃ jd xip, smRow n it off = some (smRowOf n it jd xip) := by
  unfold smRow
  split
  · exact ⟨_, _, rfl⟩
  · exact ⟨_, _, rfl⟩

/-- `updateSM` always produces a row (no undefined conversion any more) … -/
theorem smRow_total (n it : Nat) (off : α) : ∃ row, smRow n it off = some row :=
  let ⟨_, _, h⟩ := smRow_eq n it off
  ⟨_, h⟩

/-- … of `it` entries whose source indices are all inside the line -/
theorem smRow_in_bounds (n it : Nat) (hn : 0 < n) (off : α) (row : List (Hi α))
    (h : smRow n it off = some row) : row.length = it ∧ ∀ e ∈ row, e.1 < n := by
  obtain ⟨jd, xip, h'⟩ := smRow_eq n it off
  obtain rfl := Option.some.inj (h.symm.trans h')
  exact ⟨smRowOf_length _ _ _ _, smRowOf_in_bounds _ _ _ hn _⟩

/-- `apply` reads the source line only at positions `< n`, whatever the table holds -/
theorem applyCell_reads_in_bounds (n : Nat) (tab : List (Hi α)) (rd rd' : Nat → α) (y : Nat)
    (h : ∀ s, s < n → rd s = rd' s) : applyCell n tab rd y = applyCell n tab rd' y :=
  applyCell_congr n tab rd rd' y h

end kick

/-! ### impedance tables -/

/-- the element-wise sum reads the right-hand table only where it exists and keeps the length of
    the left-hand one (a file shorter or longer than the frequency grid) -/
theorem addInto_length {β : Type} [Arith β] (a b : List (Cx β)) :
    (addInto a b).length = a.length := by
  simp only [addInto, List.length_append, List.length_zipWith, List.length_drop]
  omega

/-- entry `i` of the sum: the sum of the entries where both exist, the left entry otherwise -/
theorem addInto_get {β : Type} [Arith β] (a b : List (Cx β)) (i : Nat) :
    (addInto a b)[i]? = match a[i]?, b[i]? with
      | some x, some y => some (Cx.add x y)
      | some x, none => some x
      | none, _ => none := by
  induction a generalizing b i with
  | nil => rw [addInto_nil_left]; simp
  | cons x a ih =>
    cases b with
    | nil =>
      rw [addInto_nil_right]
      cases h : (x :: a)[i]? <;> simp
    | cons y b =>
      rw [addInto_cons]
      cases i with
      | zero => simp
      | succ i => simpa using ih b i

/-- for tables of equal length it is the plain element-wise sum used by the factory theorems of C16 -/
theorem addInto_eq_addTables {β : Type} [Arith β] (a b : List (Cx β)) (h : a.length = b.length) :
    addInto a b = addTables a b := by
  simp [addInto, addTables, h]

/-- the text reader returns only complete records: at most a third of the tokens, each value taken
    from the token list (nothing uninitialised), for arbitrary contents -/
theorem readData_length (toks : List Tok) : 3 * (readData toks).length ≤ toks.length := by
  exact readDataAux_length none toks

theorem readData_values (toks : List Tok) :
    ∀ r ∈ readData toks, (∃ t ∈ toks, t.val? = some r.1) ∧ (∃ t ∈ toks, t.val? = some r.2) := by
  exact readDataAux_values none toks

/-- empty or malformed input gives the empty table -/
theorem readData_garbage (t : Tok) (rest : List Tok) (h : ∀ n, t ≠ .idx n) :
    readData (t :: rest) = [] := by
  exact readDataAux_garbage none t rest h

example : readData [.idx 0, .num 1, .num 2, .idx 1, .num 3, .bad, .idx 2, .num 1, .num 1] = [(1, 2)] := by
  decide +kernel

end Inovesa.Props.C17
