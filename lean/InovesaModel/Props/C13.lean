/-
  C13 — the configuration file saved next to the results reproduces the run.
  Model: `saveLines` (Model/Options.lean) with the GENERATED rules of `save(std::string)`
  (skip list, special cases, per-type branches, precision) and the generated option table.
  Values are tokens; that printing a number and reading it back is the identity
  (`std::setprecision(max_digits10)`, `boost::lexical_cast`) is a library fact, recorded by
  `save_full_precision` and tested on the implementation by the check's oracle.
-/
import InovesaModel.Lemmas.Opt.Save
import InovesaModel.Props.C20
namespace Inovesa.Props.C13
open Inovesa Inovesa.Gen Inovesa.Props.C20

/-! ### decidable facts about the generated `save` rules (each is falsified by one of the
    historic defects: inverted alpha0 test, missing vector branch, 6-digit precision,
    `run_anyway` in the skip list) -/

/-- only compatibility names (ignored options and legacy aliases) are skipped -/
theorem skip_only_compat :
    ∀ k ∈ saveSkip, ∃ o ∈ optionDecls, o.name = k ∧
      (o.group = "_compatopts_ignore" ∨ o.group = "_compatopts_alias") := by
  decide +kernel

/-- `alpha0` is replaced by 0 only when the synchrotron frequency is set (`f_s != 0`) -/
theorem alpha0_rule : saveSpecials = [("alpha0", "f_s!=0", "alpha0=0")] := by
  rfl

/-- every value type of a config-file option bound to a variable has a branch in `save`,
    except the 8-bit OpenGL version (not observable in this build) -/
theorem saved_types_cover :
    ∀ o ∈ described optionDecls cfgGroups, o.var ≠ "" → o.ty ≠ .u8 → o.ty ∈ saveTypes := by
  decide +kernel

theorem save_full_precision : saveFullPrecision = true := by
  rfl

/-- every command-line option that carries a value can also be given in a config file under
    the same name, with the same type and variable (so that a saved value is accepted back);
    exceptions: `config` itself -/
theorem cli_options_have_cfg_twin :
    ∀ o ∈ described optionDecls cliGroups, o.ty ≠ .flag → o.name ≠ "config" →
      ∃ o' ∈ described optionDecls cfgGroups, o'.name = o.name ∧ o'.ty = o.ty ∧ o'.var = o.var := by
  decide +kernel

/-- what `save` writes for a scalar key: exactly its token in the variables map -/
theorem saved_scalar (vm : VM) (fsZero : Bool) (k : String) (o : OptSpec) (e : VMEntry)
    (hsorted : (vm.map (·.1)).Pairwise (· < ·))
    (ho : optionDecls.find? (·.name = k) = some o) (hty : o.ty ∈ saveTypes) (hflag : o.ty ≠ .flag)
    (hvec : o.ty ≠ .vecf32) (hskip : k ∉ saveSkip) (halpha : k ≠ "alpha0" ∨ fsZero = true)
    (he : vmFind vm k = some e) :
    (saveLines optionDecls saveSkip saveSpecials saveTypes vm fsZero).filter (·.1 = k)
      = [(k, stripKind (e.toks.headD ""))] := by
  rw [saveLines_filter_present _ _ _ _ _ k hsorted he]
  exact saveEntry_scalar fsZero k o e ho hty hflag hvec hskip halpha

/-- … and for the vector key (`BunchCurrent`): one line per current, in order -/
theorem saved_vector (vm : VM) (fsZero : Bool) (k : String) (o : OptSpec) (e : VMEntry)
    (hsorted : (vm.map (·.1)).Pairwise (· < ·))
    (ho : optionDecls.find? (·.name = k) = some o) (hvec : o.ty = .vecf32) (hskip : k ∉ saveSkip)
    (he : vmFind vm k = some e) :
    (saveLines optionDecls saveSkip saveSpecials saveTypes vm fsZero).filter (·.1 = k)
      = e.toks.map (fun t => (k, stripKind t)) := by
  rw [saveLines_filter_present _ _ _ _ _ k hsorted he]
  exact saveEntry_vector fsZero k o e ho hvec hskip

/-- keys absent from the variables map are not written -/
theorem saved_absent (vm : VM) (fsZero : Bool) (k : String) (he : vmFind vm k = none) :
    (saveLines optionDecls saveSkip saveSpecials saveTypes vm fsZero).filter (·.1 = k) = [] := by
  exact saveLines_filter_absent _ _ _ _ _ k he

/-- ROUND TRIP (scalar options).  If the original invocation ran with variables map `vm`, and
    re-parsing the saved file (as the only source) runs with `vm2`, then every scalar option
    `k` that `save` handles (not skipped, not `config`, and not `alpha0` while `f_s` overrides
    it) that had a value in `vm` has the same value token in `vm2`.
    (`hidem`: the token does not itself start with one of the model's literal-kind markers
    `f:`/`s:` after stripping — these markers only tag *default* tokens of the generated table; a
    user string such as `s:s:x` would be stripped twice by the model, see
    `cfg_roundtrip_needs_idem`.  This is an artefact of the model's token encoding, not of the C++.) -/
theorem cfg_roundtrip_scalar (vm vm2 : VM) (vars2 : Vars) (fsZero : Bool)
    (hsorted : (vm.map (·.1)).Pairwise (· < ·))
    (hre : parseOptions optionDecls cliGroups cfgGroups optionAliases ["--config", "@SAVED@"]
            (fun p => if p = "@SAVED@" then some (savedLines vm fsZero) else none) = .run vm2 vars2)
    (k : String) (o : OptSpec) (e : VMEntry)
    (ho : (described optionDecls cfgGroups).find? (·.name = k) = some o)
    (hty : o.ty ∈ saveTypes) (hflag : o.ty ≠ .flag) (hvec : o.ty ≠ .vecf32)
    (hskip : k ∉ saveSkip) (halias : ∀ ab ∈ optionAliases, ab.1 ≠ k ∧ ab.2 ≠ k)
    (halpha : k ≠ "alpha0" ∨ fsZero = true)
    (hnoeq : ∀ e', vmFind vm k = some e' → ¬ (stripKind (e'.toks.headD "")).contains '=')
    (he : vmFind vm k = some e)
    (hidem : stripKind (stripKind (e.toks.headD "")) = stripKind (e.toks.headD "")) :
    (vmFind vm2 k).map (fun e2 => e2.toks.map stripKind) = some [stripKind (e.toks.headD "")] := by
  rw [roundtrip' vm vm2 vars2 fsZero hsorted hre k o e ho hty hflag hvec hskip halias halpha
    (hnoeq e he) he]
  simp only [Option.map_some, List.map_cons, List.map_nil, hidem]

/-- `hidem` cannot be dropped: a `str` option whose token carries two kind prefixes (model artefact) -/
theorem cfg_roundtrip_needs_idem :
    ∃ (vm vm2 : VM) (vars2 : Vars) (fsZero : Bool) (k : String) (o : OptSpec) (e : VMEntry),
      (vm.map (·.1)).Pairwise (· < ·) ∧
      parseOptions optionDecls cliGroups cfgGroups optionAliases ["--config", "@SAVED@"]
        (fun p => if p = "@SAVED@" then some (savedLines vm fsZero) else none) = .run vm2 vars2 ∧
      (described optionDecls cfgGroups).find? (·.name = k) = some o ∧
      o.ty ∈ saveTypes ∧ o.ty ≠ .flag ∧ o.ty ≠ .vecf32 ∧ k ∉ saveSkip ∧
      (∀ ab ∈ optionAliases, ab.1 ≠ k ∧ ab.2 ≠ k) ∧ (k ≠ "alpha0" ∨ fsZero = true) ∧
      (∀ e', vmFind vm k = some e' → ¬ (stripKind (e'.toks.headD "")).contains '=') ∧
      vmFind vm k = some e ∧
      (vmFind vm2 k).map (fun e2 => e2.toks.map stripKind) ≠ some [stripKind (e.toks.headD "")] := by
  have hsaved : savedLines [("output", ⟨["s:s:x"], false⟩)] true = ["output=s:x"] := by decide +kernel
  have hcfg : parseCfg (described optionDecls cfgGroups) ["output=s:x"] = .ok [("output", ["s:x"])] := by
    simp only [parseCfg, splitOn_eq']; decide +kernel
  obtain ⟨vm2, vars2, hrun⟩ := parseOptions_runs_cfg
    (cfgFile := fun p => if p = "@SAVED@" then some (savedLines [("output", ⟨["s:s:x"], false⟩)] true) else none)
    tableOK parseCLI_saved (by decide) (storable_of_check (by
      delta wellFormed isDigits; simp only [String.all_bool_eq]; decide +kernel)) (by decide) rfl
    (by decide) (by decide) (if_pos rfl) (hsaved ▸ hcfg) (by decide) (storable_of_check (by
      delta wellFormed isDigits; simp only [String.all_bool_eq]; decide +kernel))
  have ho : (described optionDecls cfgGroups).find? (·.name = "output") = some
      { name := "output", short := "o", ty := .str, var := "_outfile", default := none,
        implicit := none, multitoken := false, group := "_programopts_file" } := by decide +kernel
  have hs : stripKind "s:s:x" = "s:x" := by decide +kernel
  have hne : ¬ (stripKind "s:s:x").contains '=' := by rw [hs, String.contains_char_eq]; decide +kernel
  have h2 := roundtrip' [("output", ⟨["s:s:x"], false⟩)] vm2 vars2 true (by simp [VMSorted]) hrun
    "output" _ ⟨["s:s:x"], false⟩ ho (by decide) (by decide) (by decide) (by decide +kernel)
    (by decide +kernel) (.inr rfl) hne rfl
  refine ⟨_, vm2, vars2, true, "output", _, ⟨["s:s:x"], false⟩, by simp, hrun, ho, by decide, by decide,
    by decide, by decide +kernel, by decide +kernel, .inr rfl, ?_, rfl, ?_⟩
  · intro e' he'
    cases he'.symm.trans (rfl : vmFind [("output", (⟨["s:s:x"], false⟩ : VMEntry))] "output" = some _)
    exact hne
  · rw [h2]
    simp only [Option.map_some, List.map_cons, List.map_nil, List.headD_cons, hs]
    decide +kernel

/-- non-vacuity: default invocation with two bunch currents; the saved file contains both -/
example : ∃ vm vars, parseOptions optionDecls cliGroups cfgGroups optionAliases
      ["-I", "0.001", "0.002", "--config", "/dev/null"] (fun _ => none) = .run vm vars ∧
    (savedLines vm true).filter (fun l => l.startsWith "BunchCurrent=")
      = ["BunchCurrent=0.001", "BunchCurrent=0.002"] ∧
    "alpha0=4e-3" ∈ savedLines vm true := by
  have hcli : parseCLI (described optionDecls cliGroups) ["-I", "0.001", "0.002", "--config", "/dev/null"] =
      .ok [("BunchCurrent", ["0.001", "0.002"]), ("config", ["/dev/null"])] := by
    unfold parseCLI; delta parseCLIAux parseCLIAux._f; simp only [splitOn_eq']; decide +kernel
  obtain ⟨vm, final, hs, hrun⟩ := parseOptions_runs_devnull (cfgFile := fun _ => none) tableOK hcli
    (by decide) (storable_of_check (by
      delta wellFormed isDigits; simp only [String.all_bool_eq]; decide +kernel)) (by decide) rfl
  have hsorted := storeParsed_sorted hs vmSorted_nil
  have hI : vmFind vm "BunchCurrent" = some ⟨["0.001", "0.002"], false⟩ := by
    rw [vmFind_cliStore hs (by decide)]; rfl
  have hA : vmFind vm "alpha0" = some ⟨["f:4e-3"], true⟩ := by
    rw [vmFind_cliStore hs (by decide)]; decide +kernel
  obtain ⟨oI, hoI, hvec⟩ : ∃ o, optionDecls.find? (·.name = "BunchCurrent") = some o ∧ o.ty = .vecf32 :=
    ⟨_, rfl, rfl⟩
  obtain ⟨oA, hoA, htyA⟩ : ∃ o, optionDecls.find? (·.name = "alpha0") = some o ∧ o.ty = .f32 :=
    ⟨_, rfl, rfl⟩
  have hsA := saved_scalar vm true "alpha0" oA _ hsorted hoA (by rw [htyA]; decide) (by rw [htyA]; decide)
    (by rw [htyA]; decide) (by decide) (.inr rfl) hA
  refine ⟨vm, _, hrun, ?_, ?_⟩
  · exact (savedLines_filter_key vm true (k := "BunchCurrent") (by decide +kernel) (by decide)).trans
      (by rw [saved_vector vm true "BunchCurrent" oI _ hsorted hoI hvec (by decide) hI]; decide +kernel)
  · have hmem : ("alpha0", "4e-3") ∈ saveLines optionDecls saveSkip saveSpecials saveTypes vm true :=
      (List.mem_filter.1 (hsA ▸ (by decide +kernel :
        ("alpha0", "4e-3") ∈ [("alpha0", stripKind (["f:4e-3"].headD ""))]))).1
    exact List.mem_map.2 ⟨_, List.mem_filter.2 ⟨hmem, by decide⟩, by decide +kernel⟩

end Inovesa.Props.C13
