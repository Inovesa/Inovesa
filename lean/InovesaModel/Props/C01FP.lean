/-
  C01 (damping/diffusion part) — column sums of the Fokker–Planck operator.
  The operator is the *generated* stencil table (Gen/FPStencil.lean, from the
  FokkerPlanckMap constructor) assembled by Model/FokkerPlanck.lean.
  Energy coordinate of row j: `p j = pmin + j·δ` (Ruler), δ ≠ 0.
-/
import InovesaModel.Lemmas.FP
namespace Inovesa.Props.C01FP
open Inovesa Inovesa.Gen

variable {α : Type} [Field α] [CharZero α]

/-- FPType values of the code: 0 none, 1 damping only, 2 diffusion only, 3 full -/
def ValidFPType (t : Nat) : Prop := t = 0 ∨ t = 1 ∨ t = 2 ∨ t = 3

/-- weight with which source cell `s` enters destination row `y` (sum over the entries of
    the row that point to `s`) -/
def entry (rowAt : Nat → List (Hi α)) (y s : Nat) : α :=
  (((rowAt y).filter fun h => h.1 = s).map fun h => h.2).sum

/-- column moment `Σ_y g(y)·A[y][s]` of the operator (g = 1: column sum) -/
def colMoment (n : Nat) (rowAt : Nat → List (Hi α)) (g : Nat → α) (s : Nat) : α :=
  ((List.range n).map fun y => g y * entry rowAt y s).sum

/-- one line of `FokkerPlanckMap::apply` -/
def fpLine (n : Nat) (rowAt : Nat → List (Hi α)) (rd : Nat → α) : List α :=
  (List.range n).map fun y => fpCell (rowAt y) rd

/-- Transport identity (any table whose indices stay inside the line, any data, any
    weight function g):  `Σ_y g(y)·out[y] = Σ_s in[s]·colMoment g s`. -/
theorem fp_transport (n : Nat) (rowAt : Nat → List (Hi α)) (rd g : Nat → α)
    (hidx : ∀ y, y < n → ∀ h ∈ rowAt y, h.1 < n) :
    ((List.range n).map fun y => g y * fpCell (rowAt y) rd).sum
      = ((List.range n).map fun s => rd s * colMoment n rowAt g s).sum := by
  exact transport n rowAt rd g hidx

/-- all indices written by the constructor are inside the line (needed by `apply`, which
    has no bounds test), for the 3-point stencil and `n ≥ 3` -/
theorem fp3_indices_in_range (fptype n jc : Nat) (ltyc : Nat → Bool) (hn : 3 ≤ n) (hn' : n < 2 ^ 31)
    (e1 delta : α) (p : Nat → α) (y : Nat) (hy : y < n) :
    ∀ h ∈ fpRowAt 3 fptype n jc ltyc e1 delta p y, h.1 < n := by
  rcases valid_or_ge fptype with hft | hft
  · exact fp3_indices fptype n jc ltyc hft hn' e1 delta p y hn hy
  · rw [fpRowAt_invalid 3 fptype n jc ltyc hft]; simp

/-- same for the 4-point stencil, `n ≥ 4`, provided the split row `jc = trunc(ycenter)`
    is at least 1.  (For `jc = 0` the second loop of the constructor starts at row 0 and
    writes the index `j-1 = 2^32-1` there *after* the row was zeroed: `apply` then reads out
    of bounds — this is the C17 finding for grids whose zero-energy bin is below row 1.) -/
theorem fp4_indices_in_range (fptype n jc : Nat) (ltyc : Nat → Bool) (hn : 4 ≤ n) (hn' : n < 2 ^ 31)
    (hjc : 1 ≤ jc) (hsplit : ∀ j, j < jc → ltyc j = true)
    (e1 delta : α) (p : Nat → α) (y : Nat) (hy : y < n) :
    ∀ h ∈ fpRowAt 4 fptype n jc ltyc e1 delta p y, h.1 < n := by
  rcases valid_or_ge fptype with hft | hft
  · exact fp4_indices fptype n jc ltyc hft hn' e1 delta p y hn hjc hsplit hy
  · rw [fpRowAt_invalid 4 fptype n jc ltyc hft]; simp

/-- 3-point stencil: every interior column (2 ≤ s ≤ n−3) sums to one, for all four
    Fokker–Planck variants, every damping decrement, cell size and grid position. -/
theorem fp3_colsum_one (fptype n jc : Nat) (ltyc : Nat → Bool) (hft : ValidFPType fptype)
    (hn' : n < 2 ^ 31) (e1 delta pmin : α) (hd : delta ≠ 0) (s : Nat) (hs : 2 ≤ s) (hs' : s + 3 ≤ n) :
    colMoment n (fpRowAt 3 fptype n jc ltyc e1 delta (fun j => pmin + (j : α) * delta))
      (fun _ => 1) s = 1 := by
  exact (band3_col_moments n _ _ _ delta hd (by norm_num) _ (grid_succ pmin delta) s hs hs' fun y hy =>
    fp3_entry fptype n jc ltyc hft hn' e1 delta _ y s (by omega) hy).1

/-- 4-point stencil: columns at least two rows away from the row where the one-sided
    stencil switches sides (`jc`) and from the zeroed border rows sum to one. -/
theorem fp4_colsum_one (fptype n jc : Nat) (ltyc : Nat → Bool) (hft : ValidFPType fptype)
    (hn' : n < 2 ^ 31) (hsplit : ∀ j, j < jc → ltyc j = true)
    (e1 delta pmin : α) (hd : delta ≠ 0) (s : Nat)
    (hs : (3 ≤ s ∧ s + 2 < jc ∧ s + 5 ≤ n) ∨ (jc + 2 ≤ s ∧ 4 ≤ s ∧ s + 4 ≤ n)) :
    colMoment n (fpRowAt 4 fptype n jc ltyc e1 delta (fun j => pmin + (j : α) * delta))
      (fun _ => 1) s = 1 := by
  exact (band4_col_moments n jc _ _ _ delta hd (by norm_num) _ (grid_succ pmin delta) s hs fun y hy =>
    fp4_entry fptype n jc ltyc hft hn' e1 delta _ y s (by omega) hsplit hy (by omega)).1

/-- 4-point stencil, the columns next to the switch row: the column-sum defect is
    proportional to the damping decrement `e1` (and vanishes for the variants without
    damping).  `κ` is an explicit function of the column; here only its existence and the
    factorisation are claimed. -/
theorem fp4_colsum_defect (fptype n jc : Nat) (ltyc : Nat → Bool) (hft : ValidFPType fptype)
    (hn' : n < 2 ^ 31) (hsplit : ∀ j, j < jc → ltyc j = true) (hjc : 4 ≤ jc) (hjc' : jc + 5 ≤ n)
    (delta pmin : α) (hd : delta ≠ 0) (s : Nat) (hs : jc ≤ s + 2) (hs' : s < jc + 2) :
    ∃ κ : α, ∀ e1 : α,
      colMoment n (fpRowAt 4 fptype n jc ltyc e1 delta (fun j => pmin + (j : α) * delta))
        (fun _ => 1) s - 1 = e1 * κ := by
  refine band4_colsum_defect n jc
    (fun e1 => fpRowAt 4 fptype n jc ltyc e1 delta fun j => pmin + (j : α) * delta)
    (damp fptype 1) (diff fptype 1) delta (fun j => pmin + (j : α) * delta) s (by omega) (by omega)
    fun e y hy => ?_
  rw [← damp_mul, ← diff_mul]
  exact fp4_entry fptype n jc ltyc hft hn' e delta _ y s (by omega) hsplit hy (by omega)

/-- Charge conservation of one line, 3-point stencil: data supported on 2 ≤ s ≤ n−3. -/
theorem fp3_line_conserves (fptype n jc : Nat) (ltyc : Nat → Bool) (hft : ValidFPType fptype)
    (hn : 3 ≤ n) (hn' : n < 2 ^ 31) (e1 delta pmin : α) (hd : delta ≠ 0) (rd : Nat → α)
    (hsupp : ∀ s, s < n → rd s ≠ 0 → 2 ≤ s ∧ s + 3 ≤ n) :
    (fpLine n (fpRowAt 3 fptype n jc ltyc e1 delta (fun j => pmin + (j : α) * delta)) rd).sum
      = ((List.range n).map rd).sum := by
  refine line_conserves n _ rd
    (fun y hy => fp3_indices_in_range fptype n jc ltyc hn hn' e1 delta _ y hy) ?_
  intro s hs h0
  obtain ⟨h2, h3⟩ := hsupp s hs h0
  exact fp3_colsum_one fptype n jc ltyc hft hn' e1 delta pmin hd s h2 h3

/-- Charge conservation of one line, 4-point stencil: data supported away from the border rows
    and from the switch row; split row `jc = trunc(ycenter) ≥ 1` (for `jc = 0` the table holds an
    out-of-range index, see `fp4_jc0_reads_outside`). -/
theorem fp4_line_conserves (fptype n jc : Nat) (ltyc : Nat → Bool)
    (hft : ValidFPType fptype)
    (hn : 4 ≤ n) (hn' : n < 2 ^ 31) (hjc : 1 ≤ jc) (hsplit : ∀ j, j < jc → ltyc j = true)
    (e1 delta pmin : α) (hd : delta ≠ 0) (rd : Nat → α)
    (hsupp : ∀ s, s < n → rd s ≠ 0 →
      (3 ≤ s ∧ s + 2 < jc ∧ s + 5 ≤ n) ∨ (jc + 2 ≤ s ∧ 4 ≤ s ∧ s + 4 ≤ n)) :
    (fpLine n (fpRowAt 4 fptype n jc ltyc e1 delta (fun j => pmin + (j : α) * delta)) rd).sum
      = ((List.range n).map rd).sum := by
  refine line_conserves n _ rd
    (fun y hy => fp4_indices_in_range fptype n jc ltyc hn hn' hjc hsplit e1 delta _ y hy) ?_
  intro s hs h0
  exact fp4_colsum_one fptype n jc ltyc hft hn' hsplit e1 delta pmin hd s (hsupp s hs h0)

/-- without `1 ≤ jc` the statement fails: for `jc = 0` (zero-energy bin below row 1) row 0 of the
    table addresses cell `2^32-1`, so `apply` reads outside the line (instance: n = 8, diffusion
    only, e1 = δ = 1, pmin = 0), in every field.  This is the model-level witness of the C17
    finding `fp-cubic-ycenter-below-1`. -/
theorem fp4_jc0_reads_outside (α : Type) [Field α] [CharZero α] :
    ¬ (∀ rd : ℕ → α,
        (∀ s, s < 8 → rd s ≠ 0 →
          (3 ≤ s ∧ s + 2 < 0 ∧ s + 5 ≤ 8) ∨ (0 + 2 ≤ s ∧ 4 ≤ s ∧ s + 4 ≤ 8)) →
        (fpLine 8 (fpRowAt 4 2 8 0 (fun _ => false) (1 : α) 1 (fun j => 0 + (j : α) * 1)) rd).sum
          = ((List.range 8).map rd).sum) := by
  intro h
  obtain ⟨rd, hr, hsum⟩ := fp4_jc0_leak (α := α)
  have key := h rd (fun s hs h0 => absurd (hr s hs) h0)
  have rhs : ((List.range 8).map rd).sum = 0 := by
    rw [sum_map_range]
    exact Finset.sum_eq_zero fun s hs => hr s (Finset.mem_range.mp hs)
  rw [rhs] at key
  exact one_ne_zero (hsum.symm.trans key)

/-- non-vacuity of the support hypotheses -/
example : (∀ s, s < 16 → (if s = 8 then (1 : ℚ) else 0) ≠ 0 → 2 ≤ s ∧ s + 3 ≤ 16) := by
  intro s _ h; by_cases hs : s = 8 <;> simp_all

end Inovesa.Props.C01FP
