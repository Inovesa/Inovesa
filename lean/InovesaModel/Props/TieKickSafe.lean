/-
  Memory safety of `KickMap::apply` and `KickMap::updateSM` stated directly on the index expressions REGENERATED
  from src/SM/KickMap.cpp and src/SM/SourceMap.cpp (Gen/KickApply.lean, Gen/UpdateSM.lean): every table slot read or
  written lies inside the allocation, every grid cell read or written inside the `nb·n·n` cells of the grid — for all
  grid sizes, bunch counts, interpolation orders and loop indices.
-/
import InovesaModel.Gen.KickApply
import InovesaModel.Gen.UpdateSM
import InovesaModel.Lemmas.Index
namespace Inovesa.Props.TieKickSafe
open Inovesa

/-- `apply`, kick along y: table slot inside the allocation, source and destination cells inside the grid -/
theorem kickY_in_bounds (nb n ip b lastbunch x y j s : Nat)
    (hb : b < nb) (hx : x < n) (hy : y < n) (hj : j < ip) (hs : s < Gen.kickYGuard n n) :
    Gen.kickYTab b lastbunch n n ip x y j < Gen.kickAlloc (Gen.kickMemsizeY n n nb ip) ∧
    Gen.kickYRead b n n x y s < nb * n * n ∧ Gen.kickYWrite b n n x y < nb * n * n := by
  have hm : min b lastbunch < nb := Nat.lt_of_le_of_lt (Nat.min_le_left _ _) hb
  refine ⟨Nat.lt_of_lt_of_le ?_ (Nat.le_max_left _ _), flat3_lt hb hx hs, flat3_lt hb hx hy⟩
  rw [Gen.kickMemsizeY, Nat.mul_comm n nb]
  exact flat_lt (flat_lt hm hx) hj

/-- `apply`, kick along x -/
theorem kickX_in_bounds (nb n ip b lastbunch x y j s : Nat)
    (hb : b < nb) (hx : x < n) (hy : y < n) (hj : j < ip) (hs : s < Gen.kickXGuard n n) :
    Gen.kickXTab b lastbunch n n ip x y j < Gen.kickAlloc (Gen.kickMemsizeX n n nb ip) ∧
    Gen.kickXRead b n n x y s < nb * n * n ∧ Gen.kickXWrite b n n x y < nb * n * n := by
  refine ⟨Nat.lt_of_lt_of_le ?_ (Nat.le_max_left _ _), flat3_lt hb hs hy, flat3_lt hb hx hy⟩
  -- the table of the x-kick has one row per `y`, whatever the bunch: row `y` is row `(y, 0)` of `n × nb`
  exact Nat.lt_of_lt_of_le (flat_lt hy hj) (Nat.mul_le_mul_right ip (Nat.le_mul_of_pos_right n (Nat.zero_lt_of_lt hb)))

/-- `updateSM`: row `i` of `_offset` (`i < _offset.size()`), entry `j1 < it`: the slot written lies inside the
    allocation, for both kick directions (`ip = it`) -/
theorem updateSM_slot_in_bounds (nb n it i j1 : Nat) (hi : i < Gen.kickOffsetSize n nb) (hj : j1 < it) :
    Gen.updSlot i it j1 < Gen.kickAlloc (Gen.kickMemsizeY n n nb it) ∧
    Gen.updSlot i it j1 < Gen.kickAlloc (Gen.kickMemsizeX n n nb it) := by
  have h : i * it + j1 < n * nb * it := flat_lt hi hj
  exact ⟨Nat.lt_of_lt_of_le h (Nat.le_max_left _ _), Nat.lt_of_lt_of_le h (Nat.le_max_left _ _)⟩

/-- non-vacuity -/
example : Gen.kickYTab 1 0 8 8 4 3 5 2 = (0 * 8 + 3) * 4 + 2 ∧ Gen.kickAlloc (Gen.kickMemsizeY 8 8 2 4) = 64 := by decide

end Inovesa.Props.TieKickSafe
