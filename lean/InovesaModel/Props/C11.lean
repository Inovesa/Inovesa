/-
  C11 — continuing from a results file equals never having stopped (state-machine part:
  what the program state relevant to the future is, and that the last record of a first leg
  is that state).  Reading the record back bit-exactly is the HDF5 assumption of the trusted
  base, tested by the check's oracle.
-/
import InovesaModel.Lemmas.Main
import InovesaModel.Props.C14
import InovesaModel.Props.C12
namespace Inovesa.Props.C11
open Inovesa Inovesa.Gen Inovesa.Props.C14

variable {V : Type}

/-- the last phase-space record of a run is its final grid, labelled with the number of steps -/
theorem last_record_is_final_state (sem : Sem V) (c : MCfg) (hf : c.hasFile = true) (k : Nat)
    (s0 : MState V) :
    (runFor sem c k s0).file.ps.getLast? = some (k, (runFor sem c k s0).grid) := by
  rw [runFor, final_eq]
  simp [finalFn, hf, emit, atHead_step]

/-- SPLIT RUN (no renormalisation: `RenormalizeCharge < 0`; static RF): running `a` steps, storing
    the final grid, and running `b` more steps from a fresh program start on the stored grid ends
    in the same grid as running `a+b` steps in one go — whatever the output settings of the legs. -/
theorem split_run (sem : Sem V) (c c1 c2 : MCfg) (hr : c.renormalize < 0)
    (h1 : Inovesa.Props.C12.SamePhysics c c1) (h2 : Inovesa.Props.C12.SamePhysics c c2)
    (hd : c.hasDrfm = false) (a b : Nat) (s0 : MState V) (dflt tr : V) :
    (runFor sem c2 b (startState (runFor sem c1 a s0).grid dflt [] tr)).grid
      = (runFor sem c (a + b) s0).grid := by
  rw [runFor_grid_static sem c2 (by rw [← h2.1]; omega) (by rw [← h2.2.2]; exact hd),
    runFor_grid_static sem c1 (by rw [← h1.1]; omega) (by rw [← h1.2.2]; exact hd),
    runFor_grid_static sem c (by omega) hd, gIter_add, ← h1.2.1, ← h2.2.1]
  rfl

/-- FULL-STRENGTH statement for every renormalisation setting.  FALSE of the code
    (`split_run_full_false`): with `RenormalizeCharge > 0` a leg boundary at a renormalisation step
    makes the second leg compute the first wake from the *renormalised* grid's projection, the
    uninterrupted run from the projection taken *before* `normalize()` -/
def SplitRunFull : Prop :=
  ∀ (W : Type) (sem : Sem W) (c : MCfg) (a b : Nat) (s0 : MState W) (dflt tr : W),
    c.hasDrfm = false →
    (runFor sem c b (startState (runFor sem c a s0).grid dflt [] tr)).grid
      = (runFor sem c (a + b) s0).grid

theorem split_run_full_false : ¬ SplitRunFull := by
  intro h
  have e := h Nat cexSem cexCfg 0 1 (startState 15 0 [] 0) 0 0 rfl
  simp only [runFor_eq, iterate_succ] at e
  exact absurd e (by decide)

end Inovesa.Props.C11
