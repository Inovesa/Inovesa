/-
  C12 — observing the simulation does not change it; equal inputs give equal outputs.
-/
import InovesaModel.Lemmas.Main
import InovesaModel.Props.C10
namespace Inovesa.Props.C12
open Inovesa Inovesa.Gen Inovesa.Props.C14

variable {V : Type}

/-- configurations that differ only in how the run is observed (output cadence, phase-space
    save cadence, whether a file is written at all, number of steps still to come) -/
def SamePhysics (c c' : MCfg) : Prop :=
  c.renormalize = c'.renormalize ∧ c.hasWake = c'.hasWake ∧ c.hasDrfm = c'.hasDrfm

theorem physAt_congr (sem : Sem V) (c c' : MCfg) (h : SamePhysics c c') (s0 s0' : MState V)
    (hs : s0.grid = s0'.grid ∧ s0.rfNext = s0'.rfNext) : physAt sem c s0 = physAt sem c' s0' := by
  unfold physAt; rw [hs.1, hs.2, h.1, h.2.1, h.2.2]

/-- NON-INTERFERENCE: after any number `k` of steps the physical state (step counter, grid,
    its x-projection, remaining RF modulation queue) does not depend on the observation settings
    nor on the initial contents of caches, tracks and file. -/
theorem noninterference (sem : Sem V) (c c' : MCfg) (h : SamePhysics c c') (s0 s0' : MState V)
    (hs : s0.grid = s0'.grid ∧ s0.rfNext = s0'.rfNext) (k : Nat) :
    physOf (atHead sem c k s0) = physOf (atHead sem c' k s0') := by
  rw [atHead, atHead, physOf_atHead, physOf_atHead, physAt_congr sem c c' h s0 s0' hs]

/-- the step function is a function of the physical state: determinism -/
theorem deterministic_step (sem : Sem V) (c c' : MCfg) (h : SamePhysics c c') (s s' : MState V)
    (hp : physOf s = physOf s') :
    physOf (execBlock sem c loopBody s) = physOf (execBlock sem c' loopBody s') := by
  rw [physOf_body, physOf_body, hp, h.1, h.2.1, h.2.2]

/-- the final grid (what `/PhaseSpace/data` ends with) is the same for all observation settings -/
theorem final_grid_same (sem : Sem V) (c c' : MCfg) (h : SamePhysics c c') (s0 s0' : MState V)
    (hs : s0.grid = s0'.grid ∧ s0.rfNext = s0'.rfNext) (k : Nat) (hf : c.hasFile = c'.hasFile) :
    (runFor sem c k s0).grid = (runFor sem c' k s0').grid := by
  rw [runFor_grid, runFor_grid, physAt_congr sem c c' h s0 s0' hs, h.1, hf]

/-- records present in two runs with different cadence are identical -/
theorem common_records_equal (sem : Sem V) (c c' : MCfg) (h : SamePhysics c c') (s0 s0' : MState V)
    (hs : s0.grid = s0'.grid ∧ s0.rfNext = s0'.rfNext)
    (h0 : s0.file.recs = [] ∧ s0'.file.recs = []) (k : Nat)
    (r r' : MRec V) (hr : r ∈ (runFor sem c k s0).file.recs) (hr' : r' ∈ (runFor sem c' k s0').file.recs)
    (ht : r.t = r'.t) :
    r.profile = r'.profile ∧ r.moments0 = r'.moments0 ∧ r.eprofile = r'.eprofile ∧
    r.moments1 = r'.moments1 ∧ r.population = r'.population ∧ r.ghostGrid = r'.ghostGrid := by
  have e : r = r' := by
    rw [runFor_recs_mem sem c k s0 h0.1 r hr, runFor_recs_mem sem c' k s0' h0.2 r' hr', ht,
      physAt_congr sem c c' h s0 s0' hs, h.1]
  subst e
  exact ⟨rfl, rfl, rfl, rfl, rfl, rfl⟩

/-- FULL-STRENGTH statement for the stored phase spaces: two runs that differ only in how they are observed hold the
    same grid under the same time stamp.  FALSE of the code (`common_phase_spaces_full_false`): with
    `SavePhaseSpace = 0` the record of step 0 is written before the loop, i.e. BEFORE the renormalisation of step 0,
    with `SavePhaseSpace > 0` it is written inside the loop, after it. -/
def CommonPhaseSpacesFull : Prop :=
  ∀ (W : Type) (sem : Sem W) (c c' : MCfg), SamePhysics c c' → ∀ (s0 s0' : MState W),
    (s0.grid = s0'.grid ∧ s0.rfNext = s0'.rfNext) →
    (s0.file.recs = [] ∧ s0.file.ps = []) → (s0'.file.recs = [] ∧ s0'.file.ps = []) →
    ∀ (k t : Nat) (g g' : W), (t, g) ∈ (runFor sem c k s0).file.ps → (t, g') ∈ (runFor sem c' k s0').file.ps → g = g'

/-- proved part: every stored phase space with a time stamp after step 0, and the one of step 0 whenever both runs
    save phase spaces inside the loop (`SavePhaseSpace > 0` in both) -/
theorem common_phase_spaces_equal_partial (sem : Sem V) (c c' : MCfg) (h : SamePhysics c c') (s0 s0' : MState V)
    (hs : s0.grid = s0'.grid ∧ s0.rfNext = s0'.rfNext)
    (h0 : s0.file.recs = [] ∧ s0.file.ps = []) (h0' : s0'.file.recs = [] ∧ s0'.file.ps = [])
    (k t : Nat) (g g' : V) (hps : (t, g) ∈ (runFor sem c k s0).file.ps) (hps' : (t, g') ∈ (runFor sem c' k s0').file.ps)
    (ht : 0 < t ∨ (c.h5save ≠ 0 ∧ c'.h5save ≠ 0)) : g = g' := by
  obtain ⟨r, hr, hrt, hrg⟩ := C10.ps_matches_record sem c k s0 h0 t g hps (ht.imp_right And.left)
  obtain ⟨r', hr', hrt', hrg'⟩ := C10.ps_matches_record sem c' k s0' h0' t g' hps' (ht.imp_right And.right)
  have e := (common_records_equal sem c c' h s0 s0' hs ⟨h0.1, h0'.1⟩ k r r' hr hr' (hrt.trans hrt'.symm)).2.2.2.2.2
  rw [← hrg, ← hrg', e]

/-- witness: `RenormalizeCharge = 1`, one step, output at every step; `SavePhaseSpace = 0` stores the start grid 15
    under time stamp 0, `SavePhaseSpace = 1` stores the renormalised grid 10 under the same time stamp -/
theorem common_phase_spaces_full_false : ¬ CommonPhaseSpacesFull := by
  intro h
  have h1 : (0, 15) ∈ (runFor cexSem cexCfg 1 (startState 15 0 [] 0)).file.ps := by
    rw [runFor_eq, iterate_succ]; decide
  have h2 : (0, 10) ∈ (runFor cexSem { cexCfg with h5save := 1 } 1 (startState 15 0 [] 0)).file.ps := by
    rw [runFor_eq, iterate_succ]; decide
  have := h Nat cexSem cexCfg { cexCfg with h5save := 1 } ⟨rfl, rfl, rfl⟩ (startState 15 0 [] 0) (startState 15 0 [] 0)
    ⟨rfl, rfl⟩ ⟨rfl, rfl⟩ ⟨rfl, rfl⟩ 1 0 15 10 h1 h2
  exact absurd this (by decide)

end Inovesa.Props.C12
