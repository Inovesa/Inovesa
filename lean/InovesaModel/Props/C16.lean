/-
  C16 — impedance models are well-formed, passive, correctly scaled and causal
  (structure, passivity, scaling and the factory; asymptotics of the parallel-plates model and
  the one-sidedness of the truncated spectra are measured by the check, not proved).
-/
import InovesaModel.Model.Impedance
import InovesaModel.Lemmas.Field
import InovesaModel.Props.TiePP
import Mathlib.Algebra.Order.Field.Basic
import Mathlib.Tactic.Linarith
import Mathlib.Tactic.Positivity
namespace Inovesa.Props.C16
open Inovesa

section shape
variable {α : Type} [Field α]

/-- every builder returns exactly the requested number of samples -/
theorem impTable_length (n first last : Nat) (elem : Nat → Cx α) :
    (impTable n first last elem).length = n := by
  simp [impTable]

theorem const_length (n : Nat) (z : Cx α) : (constImpedance n z).length = n := by
  simp [constImpedance]

/-- sample `i` of a table -/
theorem impTable_getElem? (n first last : Nat) (elem : Nat → Cx α) (i : Nat) (hi : i < n) :
    (impTable n first last elem)[i]? = some (if first ≤ i ∧ i ≤ last then elem i else ((0 : α), (0 : α))) := by
  simp [impTable, hi, Cx.czero, zero]

/-- samples above `last` (= n/2: the negative-frequency half) are identically zero -/
theorem impTable_zero_above (n first last : Nat) (elem : Nat → Cx α) (i : Nat) (hi : i < n) (h : last < i) :
    (impTable n first last elem)[i]? = some ((0 : α), (0 : α)) := by
  rw [impTable_getElem? n first last elem i hi, if_neg (by omega)]

theorem free_zero_upper_half (n : Nat) (pw : Nat → α) (i : Nat) (hi : i < n) (h : n / 2 < i) :
    (freeSpaceCSR n pw)[i]? = some ((0 : α), (0 : α)) :=
  impTable_zero_above n 0 (n / 2) _ i hi h

theorem wall_zero_upper_half (n : Nat) (r : α) (sq : Nat → α) (i : Nat) (hi : i < n) (h : n / 2 < i) :
    (resistiveWall n r sq)[i]? = some ((0 : α), (0 : α)) :=
  impTable_zero_above n 0 (n / 2) _ i hi h

theorem pp_zero_upper_half (n : Nat) (pref : Nat → α) (terms : Nat → List (α × α × α × α × α))
    (i : Nat) (hi : i < n) (h : n / 2 < i) :
    (parallelPlates n pref terms)[i]? = some ((0 : α), (0 : α)) :=
  impTable_zero_above n 1 (n / 2) _ i hi h

theorem const_zero_upper_half (n : Nat) (z : Cx α) (i : Nat) (hi : i < n) (h : n / 2 ≤ i) :
    (constImpedance n z)[i]? = some ((0 : α), (0 : α)) := by
  simp [constImpedance, hi, Cx.czero, zero]
  omega

/-- resistive wall: real and imaginary part are opposite for every sample (phase −π/4) -/
theorem wall_phase (n : Nat) (r : α) (sq : Nat → α) (i : Nat) (hi : i < n) :
    ∃ z, (resistiveWall n r sq)[i]? = some z ∧ z.2 = -z.1 := by
  refine ⟨_, impTable_getElem? n 0 (n / 2) _ i hi, ?_⟩
  split <;> simp

/-- free space: sample `i ≤ n/2` is `Z0·pw(i)`: growth like the library power of `i·Δ` -/
theorem free_scaling (n : Nat) (pw : Nat → α) (i : Nat) (hi : i < n) (h : i ≤ n / 2) :
    (freeSpaceCSR n pw)[i]? = some ((3063 / 10 : α) * pw i, (1769 / 10 : α) * pw i) := by
  rw [freeSpaceCSR, impTable_getElem? n 0 (n / 2) _ i hi, if_pos ⟨Nat.zero_le i, h⟩]
  simp

end shape

section passive
variable {α : Type} [Field α] [LinearOrder α] [IsStrictOrderedRing α]

omit [IsStrictOrderedRing α] in
/-- a table is passive when the samples it is filled with are -/
theorem impTable_re_nonneg (n first last : Nat) (elem : Nat → Cx α) (h : ∀ i, 0 ≤ (elem i).1) :
    ∀ z ∈ impTable n first last elem, 0 ≤ z.1 := by
  intro z hz
  simp only [impTable, List.mem_map] at hz
  obtain ⟨i, _, rfl⟩ := hz
  split
  · exact h i
  · simp [Cx.czero, zero]

/-- free space: non-negative real part whenever the power is non-negative -/
theorem free_re_nonneg (n : Nat) (pw : Nat → α) (hp : ∀ i, 0 ≤ pw i) :
    ∀ z ∈ freeSpaceCSR n pw, 0 ≤ z.1 :=
  impTable_re_nonneg n 0 (n / 2) _ fun i => by
    have := hp i
    simp only [lit_field]
    positivity

/-- resistive wall: non-negative real part for `r ≥ 0` and non-negative square roots -/
theorem wall_re_nonneg (n : Nat) (r : α) (sq : Nat → α) (hr : 0 ≤ r) (hs : ∀ i, 0 ≤ sq i) :
    ∀ z ∈ resistiveWall n r sq, 0 ≤ z.1 :=
  impTable_re_nonneg n 0 (n / 2) _ fun i => mul_nonneg hr (hs i)

/-- parallel plates: non-negative real part when the prefactor is non-negative and every mode
    argument `u` is non-negative (it is `π² p² / 2^{2/3} · m^{-4/3} > 0`) -/
theorem pp_re_nonneg (n : Nat) (pref : Nat → α) (terms : Nat → List (α × α × α × α × α))
    (hp : ∀ i, 0 ≤ pref i) (hu : ∀ i, ∀ t ∈ terms i, 0 ≤ t.1) :
    ∀ z ∈ parallelPlates n pref terms, 0 ≤ z.1 := by
  -- the sum over the plate modes keeps a non-negative real part: every mode adds `zincRe ≥ 0`
  have key : ∀ (l : List (α × α × α × α × α)) (acc : Cx α), 0 ≤ acc.1 → (∀ t ∈ l, 0 ≤ t.1) →
      0 ≤ (l.foldl (fun (acc : Cx α) t =>
        (acc.1 + (t.2.2.1 * t.2.2.1 + t.1 * (t.2.1 * t.2.1)),
         acc.2 + (-(t.2.2.1 * t.2.2.2.2) - t.1 * (t.2.1 * t.2.2.2.1)))) acc).1 := by
    intro l
    induction l with
    | nil => exact fun acc h _ => h
    | cons t l ih =>
      exact fun acc h hl => ih _ (add_nonneg h (TiePP.pp_summand_passive _ _ _ 0 0 (hl t (List.mem_cons_self ..))))
        fun t' ht' => hl t' (List.mem_cons_of_mem _ ht')
  exact impTable_re_nonneg n 1 (n / 2) _ fun i =>
    mul_nonneg (hp i) (key (terms i) Cx.czero (by simp [Cx.czero, zero]) (hu i))

/-- collimator: `Z0/π·log(outer/inner)` is a positive constant resistance for `outer > inner > 0`
    given `log` positive on arguments above one -/
theorem collimator_positive (z0pi lg : α) (hz : 0 < z0pi) (hl : 0 < lg) : 0 < z0pi * lg :=
  mul_pos hz hl

/-- free-space phase: `Z0 = 306.3 + 176.9 i` has `tan(arg) = 176.9/306.3`, within 0.1 % of
    `tan(π/6) = 1/√3` (`3·176.9² ≈ 306.3²`) — the phase of a one-sided `f^{1/3}` impedance -/
theorem free_phase_is_pi_over_six :
    |(3 : ℚ) * (1769 / 10) ^ 2 - (3063 / 10) ^ 2| < (1 / 1000) * (3063 / 10) ^ 2 := by
  norm_num [abs_lt]

end passive

/-! ### the factory: which contributions are summed, for every combination of switches -/

/-- nothing selected ⇔ no impedance is returned -/
theorem factory_none_iff (c : FactoryCfg) :
    factoryContributions c = none ↔
      (c.gapNonzero = false ∨ (c.useCSR = false ∧ c.wall = false ∧ c.collimator = false)) ∧ c.file = false := by
  -- `none` is returned iff each of the four optional singletons is empty
  simp only [factoryContributions, ite_eq_left_iff, reduceCtorEq, imp_false, not_not]
  cases c.gapNonzero <;> simp [and_assoc]

/-- with a non-zero gap and CSR on, exactly one of the two CSR models is used, chosen by the sign
    of the gap; wall and collimator are added iff selected; a file is always added when given -/
theorem factory_selection (c : FactoryCfg) (l : List String) (h : factoryContributions c = some l) :
    ("parallel-plates" ∈ l ↔ (c.gapNonzero ∧ c.useCSR ∧ c.gapPositive)) ∧
    ("free-space" ∈ l ↔ (c.gapNonzero ∧ c.useCSR ∧ c.gapPositive = false)) ∧
    ("resistive-wall" ∈ l ↔ (c.gapNonzero ∧ c.wall)) ∧
    ("collimator" ∈ l ↔ (c.gapNonzero ∧ c.collimator)) ∧
    ("file" ∈ l ↔ c.file = true) := by
  simp only [factoryContributions, Option.ite_none_left_eq_some, Option.some.injEq] at h
  obtain ⟨_, rfl⟩ := h
  -- membership in the concatenation of the four optional singletons
  cases c.gapPositive <;> simp

/-- the sum of tables with non-negative real parts has non-negative real parts -/
theorem add_re_nonneg {α : Type} [Field α] [LinearOrder α] [IsStrictOrderedRing α]
    (a b : List (Cx α)) (ha : ∀ z ∈ a, 0 ≤ z.1) (hb : ∀ z ∈ b, 0 ≤ z.1) :
    ∀ z ∈ addTables a b, 0 ≤ z.1 := by
  intro z hz
  simp only [addTables, List.mem_iff_getElem?] at hz
  obtain ⟨i, hi⟩ := hz
  rw [List.getElem?_zipWith] at hi
  cases ha' : a[i]? with
  | none => simp [ha'] at hi
  | some x =>
    cases hb' : b[i]? with
    | none => simp [ha', hb'] at hi
    | some y =>
      simp [ha', hb', Cx.add] at hi
      subst hi
      have h1 := ha x (List.mem_of_getElem? ha')
      have h2 := hb y (List.mem_of_getElem? hb')
      simp only
      linarith

/-- non-vacuity: a configuration selecting three contributions -/
example : factoryContributions ⟨true, true, true, true, false, true⟩
    = some ["parallel-plates", "resistive-wall", "file"] := by decide

end Inovesa.Props.C16
