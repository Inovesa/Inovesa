/-
  C10 — each record of the results file describes one instant, consistently
  (schedule, lengths, freshness of what is appended).  Unit factors and dataset layouts are
  treated by the file-level oracle of the check; this file is the state-machine part.
-/
import InovesaModel.Lemmas.Main
import InovesaModel.Props.C14
namespace Inovesa.Props.C10
open Inovesa Inovesa.Gen Inovesa.Props.C14

variable {V : Type}

/-- all time-indexed datasets have as many records as the time axis -/
def FileInv (c : MCfg) (f : MFile V) : Prop :=
  f.csr.length = f.recs.length ∧ f.tracks.length = f.recs.length ∧
  (c.hasWake = true → f.wake.length = f.recs.length) ∧ (c.hasWake = false → f.wake = [])

theorem lengths_equal (sem : Sem V) (c : MCfg) (k : Nat) (s0 : MState V)
    (h0 : s0.file.recs = [] ∧ s0.file.csr = [] ∧ s0.file.tracks = [] ∧ s0.file.wake = []) :
    FileInv c (runFor sem c k s0).file := by
  refine runFor_file_inv sem c (FileInv c) s0 (by simp [FileInv, initFn, h0]) (fun all pad s f h => ?_) k
  cases hw : c.hasWake <;> simp_all [FileInv, emit]

/-- the time axis lists exactly the output steps (every outstep-th step from 0) and the final step -/
theorem time_axis (sem : Sem V) (c : MCfg) (hf : c.hasFile = true) (k : Nat) (s0 : MState V)
    (h0 : s0.file.recs = []) :
    (runFor sem c k s0).file.recs.map (·.t)
      = ((List.range k).filter fun i => decide (c.outstep > 0) && decide (i % c.outstep = 0)) ++ [k] := by
  rw [runFor_recs sem c k s0 h0, List.map_map]
  have ht : (fun r : MRec V => r.t) ∘ (fun i => recOf sem c.renormalize (physAt sem c s0 i)) = id :=
    funext (physAt_fst sem c s0)
  have hw : wr c = fun i => decide (c.outstep > 0) && decide (i % c.outstep = 0) :=
    funext fun i => by simp [wr, hf, isOut]
  rw [ht, List.map_id, outSteps, hf, hw]; rfl

/-- without a results file nothing is recorded -/
theorem no_file_no_records (sem : Sem V) (c : MCfg) (hf : c.hasFile = false) (k : Nat) (s0 : MState V)
    (h0 : s0.file.recs = [] ∧ s0.file.ps = []) :
    (runFor sem c k s0).file.recs = [] ∧ (runFor sem c k s0).file.ps = [] := by
  refine runFor_inv sem c (fun s => s.file.recs = [] ∧ s.file.ps = [])
    (fun s => s.file.recs = [] ∧ s.file.ps = []) s0 ?_ ?_ ?_ k
  · simpa [initFn, hf] using h0
  · intro s h; simpa [bodyFn, wr, hf] using h
  · intro s h; simpa [finalFn, hf] using h

/-- a record is consistent when everything in it was computed from the grid it describes -/
def RecFresh (sem : Sem V) (r : MRec V) : Prop :=
  r.profile = sem.xproj r.ghostGrid ∧ r.eprofile = sem.yproj r.ghostGrid ∧
  r.population = sem.integ r.profile ∧ r.moments0 = sem.mom0 r.profile r.population ∧
  r.moments1 = sem.mom1 r.eprofile r.population

/-- FULL-STRENGTH statement: every record of every run is consistent.  FALSE of the code when
    charge renormalisation coincides with an output step (`fresh_full_false`): the bunch profile
    appended is the projection of the grid *before* `normalize()` rescaled it. -/
def FreshFull : Prop :=
  ∀ (W : Type) (sem : Sem W) (c : MCfg) (k : Nat) (s0 : MState W),
    s0.file.recs = [] → ∀ r ∈ (runFor sem c k s0).file.recs, RecFresh sem r

/-- a record is consistent unless the charge was renormalised at the step it is written -/
theorem fresh_unless_renormalised (sem : Sem V) (c : MCfg) (k : Nat) (s0 : MState V) (h0 : s0.file.recs = []) :
    ∀ r ∈ (runFor sem c k s0).file.recs, isRenorm c.renormalize r.t = false → RecFresh sem r := by
  intro r hm hn
  rw [runFor_recs_mem sem c k s0 h0 r hm] at hn ⊢
  have hx := physAt_xp sem c s0 r.t
  have hn' : isRenorm c.renormalize (physAt sem c s0 r.t).1 = false := hn
  simp [RecFresh, recOf, recAt, gridR, hn', hx]

/-- proved part: runs without renormalisation inside the loop (`RenormalizeCharge ≤ 0`, the
    default is 0) -/
theorem fresh_at_append_partial (sem : Sem V) (c : MCfg) (hr : c.renormalize ≤ 0) (k : Nat)
    (s0 : MState V) (h0 : s0.file.recs = []) :
    ∀ r ∈ (runFor sem c k s0).file.recs, RecFresh sem r := by
  exact fun r hm => fresh_unless_renormalised sem c k s0 h0 r hm (isRenorm_nonpos hr _)

/-- witness for the failure with renormalisation: `RenormalizeCharge = 1`, output at every step,
    a semantics in which `normalize` changes the grid -/
theorem fresh_full_false : ¬ FreshFull := by
  intro h
  have hr : recOf cexSem 1 (physAt cexSem cexCfg (startState 15 0 [] 0) 0)
      ∈ (runFor cexSem cexCfg 1 (startState 15 0 [] 0)).file.recs := by
    rw [runFor_recs _ _ _ _ rfl]; exact List.mem_map_of_mem (by decide)
  exact absurd (h Nat cexSem cexCfg 1 _ rfl _ hr).1 (by decide)

/-- wake and CSR records always belong to the recorded profile (also with renormalisation):
    the i-th wake record is the wake of the i-th recorded bunch profile, the i-th CSR record the
    spectrum of that profile -/
theorem wake_csr_of_profile (sem : Sem V) (c : MCfg) (hw : c.hasWake = true) (k : Nat) (s0 : MState V)
    (h0 : s0.file.recs = [] ∧ s0.file.csr = [] ∧ s0.file.wake = []) :
    (runFor sem c k s0).file.wake = (runFor sem c k s0).file.recs.map (fun r => sem.wake r.profile) ∧
    (runFor sem c k s0).file.csr = (runFor sem c k s0).file.recs.map (fun r => sem.csr r.profile) := by
  refine runFor_file_inv sem c
    (fun f => f.wake = f.recs.map (fun r => sem.wake r.profile) ∧ f.csr = f.recs.map (fun r => sem.csr r.profile))
    s0 (by simp [initFn, h0]) (fun all pad s f h => ?_) k
  simp [emit, hw, h, recAt]

/-- every stored phase space is the grid of the step it is labelled with: same grid as the
    record of that step -/
theorem ps_matches_record (sem : Sem V) (c : MCfg) (k : Nat) (s0 : MState V)
    (h0 : s0.file.recs = [] ∧ s0.file.ps = []) (t : Nat) (g : V)
    (hps : (t, g) ∈ (runFor sem c k s0).file.ps) (ht : 0 < t ∨ c.h5save ≠ 0) :
    ∃ r ∈ (runFor sem c k s0).file.recs, r.t = t ∧ r.ghostGrid = g := by
  rcases List.mem_append.1 ((runFor_ps sem c k s0 h0.2).subset hps) with h | h
  · split at h
    · rename_i hc
      simp only [Bool.and_eq_true, decide_eq_true_eq] at hc
      cases List.mem_singleton.1 h; omega
    · cases h
  · obtain ⟨i, hi, e⟩ := List.mem_map.1 h
    obtain rfl : i = t := congrArg Prod.fst e
    exact ⟨_, by rw [runFor_recs sem c k s0 h0.1]; exact List.mem_map_of_mem hi, physAt_fst sem c s0 i,
      congrArg Prod.snd e⟩

end Inovesa.Props.C10
