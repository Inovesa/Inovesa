/-
  C15 — tracked particles follow the flow of the distribution and never leave the grid.
-/
import InovesaModel.Props.C02
import Mathlib.Algebra.Order.Field.Basic
import Mathlib.Algebra.Field.ZMod
import Mathlib.Tactic.LinearCombination

namespace Inovesa

/-- the variance fixed point of the stochastic tracking model (`stochastic_variance_fixed_point`
    below) with only `[Field α]` (no `2 ≠ 0`), as a closed proposition -/
def VarianceFixedPointAnyField : Prop :=
  ∀ (α : Type) [Field α] (e1 delta : α), e1 ≠ 0 → e1 ≠ 2 → delta ≠ 0 →
    (1 - e1) ^ 2 * (1 / (delta ^ 2 * (1 - e1 / 2))) + 2 * e1 / delta ^ 2
      = 1 / (delta ^ 2 * (1 - e1 / 2))

end Inovesa

namespace Inovesa.Props.C15
open Inovesa Inovesa.Gen Inovesa.Props.C02

section clamp
variable {α : Type} [Field α] [LinearOrder α] [IsStrictOrderedRing α]

/-- `std::max(1, std::min(x, n-1))` as the code writes it -/
instance : MinMax α := ⟨fun a b => if b < a then b else a, fun a b => if a < b then b else a⟩

/-- After `KickMap::applyTo` the coordinate along the kick lies in `[1, n−1]`, whatever the
    position, the displacement field and the perpendicular coordinate (n ≥ 2). -/
theorem kick_clamps (n : Nat) (hn : 2 ≤ n) (off : Nat → α) (p : α) (i : Nat) (fr : α) :
    (1 : α) ≤ applyToCoord n off p i fr ∧ applyToCoord n off p i fr ≤ ((n - 1 : Nat) : α) := by
  unfold applyToCoord
  simp only [MinMax.max, MinMax.min, ite_lt_eq_min, ite_lt_eq_max, lit_one, Int.cast_one]
  exact clamp_mem (Nat.one_le_cast.mpr (Nat.le_sub_one_of_lt hn)) _

/-- generic clamp used by all Fokker–Planck tracking models (after the fix also by the
    stochastic one): the result is in `[1, n−1]` -/
theorem clamp_bounds (n : Nat) (hn : 2 ≤ n) (x : α) :
    (1 : α) ≤ MinMax.max (1 : α) (MinMax.min x (((n - 1 : Nat) : α))) ∧
    MinMax.max (1 : α) (MinMax.min x (((n - 1 : Nat) : α))) ≤ ((n - 1 : Nat) : α) := by
  simp only [MinMax.max, MinMax.min, ite_lt_eq_min, ite_lt_eq_max]
  exact clamp_mem (Nat.one_le_cast.mpr (Nat.le_sub_one_of_lt hn)) _

/-- a coordinate in `[1, n−1]` truncates to an index `< n`: the array look-ups of
    `appendTracks` and of the next kick are defined -/
theorem lookup_defined (n : Nat) (hn : 2 ≤ n) (x : α) (h1 : 1 ≤ x) (h2 : x ≤ ((n - 1 : Nat) : α))
    (k : Nat) (hk : (k : α) ≤ x) : k < n := by
  have h : (k : α) ≤ ((n - 1 : Nat) : α) := le_trans hk h2
  have := Nat.cast_le.mp h
  omega

/-- when the clamp is not active the particle moves by minus the linearly interpolated
    displacement -/
theorem applyTo_moves (n : Nat) (off : Nat → α) (p : α) (i : Nat) (fr : α) (hi : i + 1 < n)
    (hlo : 1 ≤ p - ((1 - fr) * off i + fr * off (i + 1)))
    (hhi : p - ((1 - fr) * off i + fr * off (i + 1)) ≤ ((n - 1 : Nat) : α)) :
    applyToCoord n off p i fr = p - ((1 - fr) * off i + fr * off (i + 1)) := by
  unfold applyToCoord
  simp only [if_pos hi, MinMax.max, MinMax.min, ite_lt_eq_min, ite_lt_eq_max, lit_one, Int.cast_one]
  exact clamp_id hlo hhi

end clamp

section blob
variable {α : Type} [Field α] [CharZero α]

/-- PARTICLE = BLOB.  A bilinear blob of unit charge around the particle occupies the lines `i`
    (weight `1−fr`) and `i+1` (weight `fr`) of the perpendicular direction.  If each of the two
    lines is transported exactly (`kick_line_first_moment`), the centroid of the blob along the
    kick moves from `c` to `c − ((1−fr)·d_i + fr·d_{i+1})` where `d_r` is the displacement of
    line `r` — the same expression `applyTo` uses for the particle. -/
theorem blob_centroid (fr c0 c1 d0 d1 m0 m1 : α)
    (h0 : m0 = (1 - fr) * (c0 - d0)) (h1 : m1 = fr * (c1 - d1)) (hc : c0 = c1) :
    m0 + m1 = c0 - ((1 - fr) * d0 + fr * d1) := by
  rw [h0, h1, hc]; ring

end blob

section stochastic
variable {α : Type} [Field α]

/-- ensemble mean under `y' = y − e1·(y − yc) + ξ` with `E ξ = 0`: `m' − yc = (1−e1)(m − yc)`,
    so a mean at `yc` stays there and any other mean relaxes to it -/
theorem stochastic_mean (e1 yc m : α) : (m - e1 * (m - yc) + 0) - yc = (1 - e1) * (m - yc) := by
  ring

/-- ensemble variance: `v' = (1−e1)²·v + s2` (noise independent of the position, variance s2);
    with `s2 = 2·e1/δ²` the stationary value is `1/(δ²·(1 − e1/2))`: the unit natural width up
    to O(e1) -/
theorem stochastic_variance_fixed_point (e1 delta : α) (he : e1 ≠ 0) (he2 : e1 ≠ 2)
    (hd : delta ≠ 0) (h2 : (2 : α) ≠ 0) :
    let vstar := 1 / (delta ^ 2 * (1 - e1 / 2))
    (1 - e1) ^ 2 * vstar + 2 * e1 / delta ^ 2 = vstar := by
  intro vstar
  have h4 : 2 - e1 ≠ 0 := fun h => he2 (by linear_combination -h)
  simp only [vstar]
  field_simp
  ring

/-- the hypothesis `2 ≠ 0` cannot be dropped (characteristic 2) -/
theorem stochastic_variance_needs_two_ne_zero : ¬ VarianceFixedPointAnyField := by
  -- `α = ZMod 2`, `e1 = 1`, `delta = 1` gives `0 = 1`
  intro H
  have h := H (ZMod 2) 1 1 (by decide) (by decide) (by decide)
  have h2 : (2 : ZMod 2) = 0 := by decide
  simp [h2] at h

/-- the recurrence the code had before the fix, `y' = y − e1·y + ξ`, drives the mean to row 0
    instead: `m_k = (1−e1)^k·m_0` -/
theorem old_recurrence_mean (e1 m0 : α) (k : Nat) :
    (Nat.rec m0 (fun _ m => m - e1 * m) k : α) = (1 - e1) ^ k * m0 := by
  induction k with
  | zero => simp
  | succ k ih => simp only [ih]; ring

end stochastic

end Inovesa.Props.C15
