/-
  The start-file reader (C11: "starting from the last (or any chosen) record … loads exactly the stored values; a file
  that cannot be used as a start is refused"): the hand model of Model/H5Read.lean tied to the integer logic regenerated
  from `HDF5File::readPhaseSpace` (translator fragment G11, Gen/H5Read.lean), and what it implies — for every number
  of records, every grid size, every bunch count and every `StartDistStep`.
-/
import InovesaModel.Model.H5Read
import InovesaModel.Gen.H5Read
namespace Inovesa.Props.TieH5Read
open Inovesa

/-- the record arithmetic of the model is the generated expression -/
theorem record_choice_is_code (dims : Nat → Nat) (step : Int) :
    chooseRecord (dims 0) step = Gen.H5Read.chosenRecord dims step := rfl

/-- the refusal test of the model is the generated one (and it comes before the record arithmetic: the translator
    checks the statement order) -/
theorem refusal_is_code (rank : Nat) (dims : Nat → Nat) :
    (decide (rank < 1 ∨ dims 0 = 0)) = Gen.H5Read.refuses rank dims := by
  simp only [Gen.H5Read.refuses]
  by_cases h1 : rank < 1 <;> by_cases h2 : dims 0 = 0 <;> simp [h1, h2] <;> omega

/-- the two ranks the reader knows, with grid size, bunch count, hyperslab offset (the chosen record, then zeros) and
    extent (ONE record); the loaded phase space is created for a single bunch -/
theorem rank_cases_are_code (dims : Nat → Nat) (r : Int) :
    Gen.H5Read.rankCases dims r
      = [(3, (dims 1 : Int), 1, [r, 0, 0], [1, (dims 1 : Int), (dims 1 : Int)]),
         (4, (dims 2 : Int), (dims 1 : Int), [r, 0, 0, 0], [1, (dims 1 : Int), (dims 2 : Int), (dims 2 : Int)])]
    ∧ Gen.H5Read.fillingOfLoaded = ["1"] ∧ Gen.H5Read.sizeTest = "nxyb == selected" := ⟨rfl, rfl, rfl⟩

/-- the loaded phase space gets the box and the length / energy scales the CURRENT run computed (`bl`, `dE` of main()),
    not anything stored in the file: every unit factor of the continued run's results file belongs to its own parameters -/
theorem loaded_grid_uses_current_scales :
    Gen.H5Read.loadedCtorArgs = ["qmin", "qmax", "bl", "pmin", "pmax", "dE", "oclh", "Qb", "Ib_unscaled", "filling", "1"] := rfl

/-! ### which record is loaded -/

/-- as long as the sum formed modulo 2^64 does not wrap (`−d ≤ s`, both below 2^63), the record is `s mod d`, counted
    from the end for negative `s` -/
theorem chooseRecord_eq_emod (d : Nat) (s : Int) (hd : (d : Int) < 9223372036854775808) (h0 : -(d : Int) ≤ s)
    (hs : s < 9223372036854775808) : chooseRecord d s = s % d := by
  unfold chooseRecord
  have h : ((d : Int) % 18446744073709551616 + s % 18446744073709551616) % 18446744073709551616 = d + s := by omega
  rw [h, Int.add_emod_left]

/-- a non-negative `StartDistStep` below the number of records selects that record -/
theorem record_nonneg (d : Nat) (s : Int) (hd : (d : Int) < 9223372036854775808) (h0 : 0 ≤ s) (hs : s < d) :
    chooseRecord d s = s := by
  rw [chooseRecord_eq_emod d s hd (by omega) (by omega), Int.emod_eq_of_lt h0 hs]

/-- a negative `StartDistStep` counts from the end: `−1` is the last record, `−d` the first -/
theorem record_from_end (d : Nat) (k : Int) (hd : (d : Int) < 9223372036854775808) (h1 : 1 ≤ k) (hk : k ≤ d) :
    chooseRecord d (-k) = d - k := by
  rw [chooseRecord_eq_emod d (-k) hd (by omega) (by omega), ← Int.add_emod_left, ← Int.sub_eq_add_neg]
  exact Int.emod_eq_of_lt (by omega) (by omega)

/-- whatever `StartDistStep` is, the record that is read exists -/
theorem record_in_range (d : Nat) (s : Int) (hd : 0 < d) :
    0 ≤ chooseRecord d s ∧ chooseRecord d s < d := by
  unfold chooseRecord
  have hd' : (0 : Int) < d := by exact_mod_cast hd
  exact ⟨Int.emod_nonneg _ (by omega), Int.emod_lt_of_pos _ hd'⟩

/-! ### which files are refused -/

/-- a data set without any record is refused (before the division) -/
theorem no_record_refused (rank : Nat) (dims : Nat → Nat) (s : Int) (h : dims 0 = 0) :
    readStart rank dims s = .refused := by
  simp [readStart, h]

/-- a record holding two or more bunches is refused -/
theorem multi_bunch_refused (dims : Nat → Nat) (s : Int) (hb : 2 ≤ dims 1) (hn : 1 ≤ dims 2) :
    readStart 4 dims s = .refused := by
  unfold readStart
  by_cases h0 : dims 0 = 0
  · simp [h0]
  · have hne : ¬ (dims 2 * dims 2 * 1 = 1 * dims 1 * dims 2 * dims 2) := by
      intro h
      have hpos : 0 < dims 2 * dims 2 := Nat.mul_pos hn hn
      rw [Nat.one_mul, Nat.mul_one, Nat.mul_assoc] at h
      have h2 : 2 * (dims 2 * dims 2) ≤ dims 1 * (dims 2 * dims 2) := Nat.mul_le_mul_right _ hb
      omega
    rw [if_neg (by omega), if_neg (by decide), if_pos rfl, if_neg hne]

/-- a rank the reader does not know is refused -/
theorem other_rank_refused (rank : Nat) (dims : Nat → Nat) (s : Int) (h3 : rank ≠ 3) (h4 : rank ≠ 4) :
    readStart rank dims s = .refused := by
  unfold readStart
  split
  · rfl
  · simp [h3, h4]

/-- a single-bunch results file with at least one record is accepted, with the grid size stored in the file, and the
    record loaded is the chosen one -/
theorem single_bunch_loaded (dims : Nat → Nat) (s : Int) (h0 : dims 0 ≠ 0) :
    readStart 3 dims s = .loaded (dims 1) (chooseRecord (dims 0) s)
    ∧ (dims 1 = 1 → readStart 4 dims s = .loaded (dims 2) (chooseRecord (dims 0) s)) := by
  constructor
  · simp [readStart, h0]
  · intro h1
    simp [readStart, h0, h1]

example : chooseRecord 5 (-1) = 4 ∧ chooseRecord 5 3 = 3 ∧ readStart 3 (fun k => [5, 16, 16].getD k 0) (-1) = .loaded 16 4 := by
  decide

end Inovesa.Props.TieH5Read
