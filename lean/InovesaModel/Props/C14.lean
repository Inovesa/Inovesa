/-
  C14 — Ctrl+C at any moment leaves a complete, consistent results file.
  Model: interpreter (Model/MainProgram.lean) of the GENERATED statement skeleton of main()
  (Gen/MainProgram.lean); a signal raised at ANY interrupt point `p` (hook H1 numbering).
-/
import InovesaModel.Lemmas.Main
namespace Inovesa.Props.C14
open Inovesa Inovesa.Gen

variable {V : Type}

/-- state at the loop head after `k` uninterrupted iterations -/
def atHead (sem : Sem V) (c : MCfg) (k : Nat) (s0 : MState V) : MState V :=
  iterate sem c k (execBlock sem c initialBlock s0)

/-- the initial block resets the step counter; every iteration advances it by one -/
theorem step_counts (sem : Sem V) (c : MCfg) (k : Nat) (s0 : MState V) :
    (atHead sem c k s0).step = k := by
  exact atHead_step sem c k s0

/-- Without a signal the program runs `laststep` iterations. -/
theorem uninterrupted (sem : Sem V) (c : MCfg) (s0 : MState V) :
    runMain sem c none s0 = runFor sem c c.laststep s0 := by
  rw [runMain, runFor, loopFuel_none]
  rw [init_eq]; exact Nat.zero_add _

/-- A signal at ANY interrupt point `p` (before, inside or after the loop; further signals only
    set the same flag again): the program finishes the iteration in progress, runs the final block
    once, and ends in exactly the state of an uninterrupted run over `k ≤ laststep` steps. -/
theorem interrupt_is_truncation (sem : Sem V) (c : MCfg) (p : Nat) (s0 : MState V) :
    ∃ k, k ≤ c.laststep ∧ runMain sem c (some p) s0 = runFor sem c k s0 := by
  obtain ⟨k, hk, e⟩ := loopFuel_some sem c (some p) c.laststep (execBlock sem c initialBlock s0)
  exact ⟨k, hk, by rw [runMain, runFor, e]⟩

/-- a signal during set-up (before the modelled part): no iteration runs, one record for step 0 -/
theorem interrupt_during_setup (sem : Sem V) (c : MCfg) (p : Nat) (hp : p < setupMarkers) (s0 : MState V) :
    runMain sem c (some p) s0 = runFor sem c 0 s0 := by
  rw [runMain, runFor, loopFuel_aborted]
  · rfl
  · simp [aborted]; omega

/-- the datasets written before the final block only grow with the number of iterations:
    what an interrupted run (k iterations) wrote before its final record is a prefix of what
    the uninterrupted run (k' ≥ k iterations) writes -/
theorem records_prefix (sem : Sem V) (c : MCfg) (k k' : Nat) (h : k ≤ k') (s0 : MState V) :
    let a := (atHead sem c k s0).file
    let b := (atHead sem c k' s0).file
    a.recs.map (fun r => (r.t, r.profile, r.moments0, r.eprofile, r.moments1, r.population)) <+:
      b.recs.map (fun r => (r.t, r.profile, r.moments0, r.eprofile, r.moments1, r.population)) ∧
    a.ps <+: b.ps ∧ a.csr <+: b.csr ∧ a.wake <+: b.wake ∧ a.tracks <+: b.tracks ∧ a.rfk <+: b.rfk ∧
    a.padded <+: b.padded := by
  obtain ⟨d, rfl⟩ := Nat.exists_eq_add_of_le h
  intro a b
  have hp : FilePrefix a b := by
    show FilePrefix _ (iterate sem c (k + d) _).file
    rw [iterate_add]; exact iterate_filePrefix sem c d _
  exact ⟨hp.1.map _, hp.2⟩

/-- the final block writes exactly one more record to every time-indexed dataset (and one
    phase space), whatever state the loop was left in -/
theorem final_block_one_record (sem : Sem V) (c : MCfg) (hf : c.hasFile = true) (s : MState V) :
    let f := (execBlock sem c finalBlock s).file
    f.recs.length = s.file.recs.length + 1 ∧ f.ps.length = s.file.ps.length + 1 ∧
    f.csr.length = s.file.csr.length + 1 ∧ f.tracks.length = s.file.tracks.length + 1 ∧
    f.wake.length = s.file.wake.length + (if c.hasWake then 1 else 0) ∧
    (f.recs.getLast?).map (·.t) = some s.step := by
  rw [final_eq]
  cases hw : c.hasWake <;> simp [finalFn, hf, hw, emit, recAt]

/-- the generated program ends with the Aborted/Finished message and a successful return -/
theorem ends_properly : endsWithAbortedOrFinished = true := by
  rfl

/-- non-vacuity: an interrupted run of a concrete configuration -/
example : ∃ k, k ≤ 11 ∧ k < 11 ∧
    (runMain (V := Nat)
      { xproj := id, yproj := id, integ := id, normalize := (fun g _ => g), mom0 := (fun a _ => a),
        mom1 := (fun a _ => a), wake := id, wakepad := id, csr := id, kick := (fun g _ => g + 1),
        ident := (fun g => g + 1), rfStatic := (fun g => g + 1), rfDyn := (fun g _ => g + 1),
        drift := (fun g => g + 1), fp := (fun g => g + 1), track := (fun _ t _ => t) }
      { laststep := 11, outstep := 3, h5save := 2, renormalize := 0, hasWake := true, hasFile := true,
        hasDrfm := false } (some 30) (startState 0 0 [] 0)).step = k := by
  refine ⟨2, by decide, by decide, ?_⟩
  rw [runMain, final_step]
  simp [loopFuel, body_eq, init_eq, bodyFn, initFn, aborted, wr, isOut, setupMarkers, startState]

end Inovesa.Props.C14
