/-
  C05 — the stationary bunch satisfies the Haissinski equation with its own wake.   (PARTIAL)

  What is proved:
   A. on the GENERATED main loop (uninterpreted physics): one iteration transports the grid by
      wake kick, RF kick, drift, Fokker–Planck in this order, the wake kick uses the wake potential
      of the grid's CURRENT bunch profile, and the wake potential written with a record is the one
      applied in the step that follows the record;
   B. on the centroid/moment map of one step (exact, any field): at a stationary state the mean
      energy after the kicks vanishes and   tan θ · ⟨q⟩ = ⟨W⟩   (the collective force is balanced
      by the RF focusing: sign and strength), for every damping decrement;
   C. for the continuous Vlasov–Fokker–Planck equation with the code's sign conventions
      (dq/dθ = −p, dp/dθ = q − F(q), F = W/dθ): ψ = ρ(q)·exp(−p²/2) is stationary iff
      ρ' = −(q − F)ρ, and then ln ρ + q²/2 − ∫F is constant — the Haissinski relation of the
      property statement, with the unit Gaussian in energy.
  What is NOT proved: that the discrete iteration converges to a stationary state, and the size of the
  discretisation error of that state; both are measured by the check's oracle on long runs.
-/
import InovesaModel.Lemmas.Main
import InovesaModel.Lemmas.Haissinski
import InovesaModel.Props.C03
import Mathlib.Analysis.SpecialFunctions.ExpDeriv
import Mathlib.Analysis.SpecialFunctions.Log.Deriv
import Mathlib.Analysis.Calculus.MeanValue
namespace Inovesa.Props.C05
open Inovesa Inovesa.Gen

/-! ### A. the generated main loop -/
section loop
variable {V : Type}

/-- One loop iteration with an impedance, static RF and no renormalisation in this step: the grid
    is mapped by the wake kick (with the wake potential of the current profile), the RF kick, the
    drift and the Fokker–Planck map, in this order — whatever is observed or written. -/
theorem step_is_wake_rf_drift_fp (sem : Sem V) (c : MCfg) (s : MState V)
    (hw : c.hasWake = true) (hd : c.hasDrfm = false) (hr : condHolds c s .renormNow = false) :
    (execBlock sem c loopBody s).grid
      = sem.fp (sem.drift (sem.rfStatic (sem.kick s.grid (sem.wake s.xp)))) := by
  rw [condHolds_renormNow] at hr
  rw [body_eq]; simp [bodyFn, stepGrid, gridR, rfGrid, hw, hd, hr]

/-- without impedance the first map is the identity map -/
theorem step_without_wake (sem : Sem V) (c : MCfg) (s : MState V)
    (hw : c.hasWake = false) (hd : c.hasDrfm = false) (hr : condHolds c s .renormNow = false) :
    (execBlock sem c loopBody s).grid = sem.fp (sem.drift (sem.rfStatic (sem.ident s.grid))) := by
  rw [condHolds_renormNow] at hr
  rw [body_eq]; simp [bodyFn, stepGrid, gridR, rfGrid, hw, hd, hr]

/-- the profile from which the wake is computed is the x-projection of the grid being kicked:
    the loop re-projects after the last map of every iteration -/
theorem profile_is_current (sem : Sem V) (c : MCfg) (s : MState V) :
    (execBlock sem c loopBody s).xp = sem.xproj (execBlock sem c loopBody s).grid := by
  rw [body_eq]; rfl

/-- when a record is written, the wake potential stored with it is the one the following wake kick
    applies (same iteration, same profile) -/
theorem recorded_wake_is_applied (sem : Sem V) (c : MCfg) (s : MState V)
    (hw : c.hasWake = true) (hf : c.hasFile = true) (ho : condHolds c s .outNow = true) :
    (execBlock sem c loopBody s).file.wake = s.file.wake ++ [sem.wake s.xp] := by
  rw [condHolds_outNow] at ho
  rw [body_eq]; simp [bodyFn, emit, wr, ho, hf, hw]

end loop

/-! ### B. moment balance of one step (exact) -/
section moments
variable {α : Type} [Field α]

/-- first moments `(⟨q⟩, ⟨p⟩)` under one step, in the conventions of `C03.stepMap`: wake and RF kick
    `p' = p + t·q − w` (`w` = mean wake kick), drift `q' = q − θ·p'`, damping `p'' = (1−e1)·p'`
    (C04: first energy moment under the Fokker–Planck map) -/
def momentStep (θ t e1 w : α) (m : α × α) : α × α :=
  let p' := m.2 + t * m.1 - w
  (m.1 - θ * p', (1 - e1) * p')

/-- without wake and damping this is the orbit map of C03 -/
theorem momentStep_is_stepMap (θ t : α) (m : α × α) :
    momentStep θ t 0 0 m = C03.stepMap θ t m := by
  simp [momentStep, C03.stepMap]

/-- STATIONARY FIRST MOMENTS: the mean energy vanishes and the RF focusing balances the mean wake
    kick exactly, `t·⟨q⟩ = ⟨w⟩`, for every damping decrement and step size -/
theorem stationary_moments (θ t e1 w : α) (hθ : θ ≠ 0) (m : α × α)
    (h : momentStep θ t e1 w m = m) : m.2 = 0 ∧ t * m.1 = w := by
  simp only [momentStep, Prod.ext_iff] at h
  obtain ⟨h1, h2⟩ := h
  have hp : m.2 + t * m.1 - w = 0 := by
    have : θ * (m.2 + t * m.1 - w) = 0 := by linear_combination -h1
    exact (mul_eq_zero.mp this).resolve_left hθ
  have hm : m.2 = 0 := by rw [hp, mul_zero] at h2; exact h2.symm
  refine ⟨hm, ?_⟩
  rw [hm] at hp
  linear_combination hp

/-- conversely that point is stationary -/
theorem balanced_is_stationary (θ t e1 w q : α) (h : t * q = w) :
    momentStep θ t e1 w (q, 0) = (q, 0) := by
  simp only [momentStep, Prod.ext_iff]
  constructor
  · linear_combination (-θ) * h
  · linear_combination (1 - e1) * h

example : momentStep (1 / 10 : ℚ) (1 / 10) (1 / 100) (1 / 50) (1 / 5, 0) = (1 / 5, 0) := by
  exact balanced_is_stationary _ _ _ _ _ (by norm_num)

end moments

/-! ### C. the continuous equation -/
section continuous
open Real

/-- unit Gaussian in energy -/
noncomputable def g (p : ℝ) : ℝ := exp (-(p ^ 2) / 2)

theorem g_deriv (p : ℝ) : HasDerivAt g (-p * g p) p := by
  exact hasDerivAt_unitGauss p

/-- the energy part: `p·ψ + ∂ψ/∂p` vanishes identically for the unit Gaussian, hence the
    Fokker–Planck term `∂/∂p (p ψ + ∂ψ/∂p)` is zero: the energy distribution stays the unit Gaussian -/
theorem fokker_planck_flux_zero (a p : ℝ) : p * (a * g p) + a * (-p * g p) = 0 := by
  ring

/-- the Liouville part for `dq/dθ = −p`, `dp/dθ = q − F q`:
    `∂ψ/∂θ = p·∂ψ/∂q − (q − F q)·∂ψ/∂p` vanishes for `ψ = ρ(q)·g(p)` when `ρ' = −(q − F)ρ` … -/
theorem haissinski_is_stationary (ρ F : ℝ → ℝ)
    (hρ : ∀ q, HasDerivAt ρ (-(q - F q) * ρ q) q) (q p : ℝ) :
    ∃ dq dp : ℝ, HasDerivAt (fun q' => ρ q' * g p) dq q ∧ HasDerivAt (fun p' => ρ q * g p') dp p ∧
      p * dq - (q - F q) * dp = 0 := by
  refine ⟨-(q - F q) * ρ q * g p, ρ q * (-p * g p), (hρ q).mul_const (g p),
    (g_deriv p).const_mul (ρ q), ?_⟩
  ring

/-- … and only then: if the product is stationary for all `(q, p)` then `ρ' = −(q − F)ρ` -/
theorem stationary_only_haissinski (ρ ρ' F : ℝ → ℝ) (hρ : ∀ q, HasDerivAt ρ (ρ' q) q)
    (h : ∀ q p, p * (ρ' q * g p) - (q - F q) * (ρ q * (-p * g p)) = 0) (q : ℝ) :
    ρ' q = -(q - F q) * ρ q := by
  have h1 := h q 1
  have hg : g 1 ≠ 0 := (Real.exp_pos _).ne'
  have : (ρ' q + (q - F q) * ρ q) * g 1 = 0 := by linear_combination h1
  have h2 := (mul_eq_zero.mp this).resolve_right hg
  linear_combination h2

/-- THE HAISSINSKI RELATION: with `G' = F = W/dθ` (the integral of the wake in natural units per
    step over dθ), `ln ρ + q²/2 − G` is the same at any two points -/
theorem haissinski_relation (ρ F G : ℝ → ℝ) (hpos : ∀ q, 0 < ρ q)
    (hρ : ∀ q, HasDerivAt ρ (-(q - F q) * ρ q) q) (hG : ∀ q, HasDerivAt G (F q) q) (a b : ℝ) :
    log (ρ a) + a ^ 2 / 2 - G a = log (ρ b) + b ^ 2 / 2 - G b := by
  exact eq_of_hasDerivAt_zero (fun q => log (ρ q) + q ^ 2 / 2 - G q)
    (fun q => hasDerivAt_haissinski ρ F G q (hpos q).ne' (hρ q) (hG q)) a b

/-- non-vacuity: without wake the unit Gaussian satisfies the hypotheses -/
example : ∀ q : ℝ, HasDerivAt g (-(q - (fun _ => (0 : ℝ)) q) * g q) q := by
  intro q
  have h := g_deriv q
  simpa using h

end continuous

end Inovesa.Props.C05
