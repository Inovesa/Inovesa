/-
  C20 — command line beats config file beats default; legacy aliases are honoured.
  Statements about Model/Options.lean (hand model of ProgramOptions::parse over the stated
  boost::program_options semantics) instantiated with the GENERATED option table
  (Gen/Options.lean).  Values are source tokens.
-/
import InovesaModel.Lemmas.Opt.Parse
import InovesaModel.Lemmas.Opt.Eval
namespace Inovesa.Props.C20
open Inovesa Inovesa.Gen

/-- the generated event skeleton of `parse` is the one the model implements -/
theorem skeleton_matches : parseSkeleton = expectedSkeleton := by
  rfl

/-- `vmInsert`/`vmFind` behave like a finite map -/
theorem vmFind_insert (vm : VM) (k k' : String) (e : VMEntry) :
    vmFind (vmInsert vm k e) k' = if k' = k then some e else vmFind vm k' := by
  exact Inovesa.vmFind_insert vm k k' e

/-- `po::store`, one source in which every key occurs once: keys finalised by an earlier
    store are left alone; a given key replaces whatever was there and is explicit; other keys
    keep their entry, or get the described default (as a *defaulted* entry) if they had none. -/
theorem store_spec (desc : List OptSpec) (p : Parsed) (vm : VM) (final : List String)
    (hp : Once p) (vm' : VM) (final' : List String)
    (h : storeParsed desc p vm final = .ok (vm', final')) (k : String) :
    vmFind vm' k =
      (if final.contains k then
          (match vmFind vm k with
           | some e => some e
           | none => ((desc.find? (fun o => o.name = k ∧ o.default.isSome)).bind (·.default)).map
                        (fun d => { toks := [d], defaulted := true }))
       else match given p k with
        | some vals => some { toks := vals, defaulted := false }
        | none =>
          (match vmFind vm k with
           | some e => some e
           | none => ((desc.find? (fun o => o.name = k ∧ o.default.isSome)).bind (·.default)).map
                        (fun d => { toks := [d], defaulted := true }))) ∧
    (∀ k, final'.contains k = (final.contains k || (given p k).isSome)) := by
  exact ⟨store_spec' hp h k, storeParsed_final h⟩

/-- well-formedness of the generated table that the precedence argument needs (decidable):
    apart from the compatibility variable `_hi`, no two differently named options are bound to
    the same variable; aliases are unbound, live in the config-file description only and have
    no default; their current names have a default. -/
def TableWF : Prop :=
  (∀ o ∈ optionDecls, ∀ o' ∈ optionDecls, o.var ≠ "" → o.var ≠ "_hi" → o.var = o'.var → o.name = o'.name) ∧
  (∀ ab ∈ optionAliases,
      (∀ o ∈ optionDecls, o.name = ab.1 → o.var = "" ∧ o.default = none ∧ o.group = "_compatopts_alias") ∧
      (∃ o ∈ optionDecls, o.name = ab.2 ∧ o.default.isSome))

theorem table_wf : TableWF := by
  exact ⟨fun _ ho _ ho' => tableOK.var_name ho ho', alias_wf⟩

/-- the documented default of option `k` in the description made of `groups` -/
def defaultOf (groups : List String) (k : String) : Option String :=
  ((described optionDecls groups).find? (fun o => o.name = k ∧ o.default.isSome)).bind (·.default)

/-- PRECEDENCE.  Let the command line parse to `pc`, the config file exist and parse to `pf`
    (every key once), and `parse` succeed with variables map `vm`.  Then for every key `k`
    that is not a legacy alias:
      command-line value, else config-file value under the current name, else config-file
      value under its legacy alias (if `k` has one), else the default
    — and the entry is `defaulted` exactly in the last two cases. -/
theorem precedence (args : List String) (cfgname : String) (lines : List String)
    (file : String → Option (List String)) (pc pf : Parsed) (vm : VM) (vars : Vars)
    (hcli : parseCLI (described optionDecls cliGroups) args = .ok pc) (hpc : Once pc)
    (hname : given pc "config" = some [cfgname]) (hne : cfgname ≠ "/dev/null") (hne' : cfgname ≠ "")
    (hfile : file cfgname = some lines)
    (hcfg : parseCfg (described optionDecls cfgGroups) lines = .ok pf) (hpf : Once pf)
    (hrun : parseOptions optionDecls cliGroups cfgGroups optionAliases args file = .run vm vars)
    (k : String) (hk : ∀ ab ∈ optionAliases, ab.1 ≠ k) :
    (vmFind vm k).map (·.toks) =
      (match given pc k with
       | some v => some v
       | none =>
         match given pf k with
         | some v => some v
         | none =>
           match (optionAliases.find? (fun ab => ab.2 = k ∧ (given pf ab.1).isSome)) with
           | some ab => given pf ab.1
           | none =>
             (match defaultOf cliGroups k with
              | some d => some [d]
              | none => (defaultOf cfgGroups k).map (fun d => [d]))) := by
  exact precedence_of_tableOK tableOK args cfgname lines file pc pf vm vars hcli hpc hname hne hne' hfile hcfg hpf hrun k

/-- what `notify` leaves in a variable bound by exactly one option name: that entry's tokens -/
theorem notify_spec (vm : VM) (vars : Vars) (o : OptSpec) (ho : o ∈ optionDecls)
    (hv : o.var ≠ "") (hhi : o.var ≠ "_hi") (e : VMEntry) (he : vmFind vm o.name = some e)
    (hsorted : (vm.map (·.1)).Pairwise (· < ·)) :
    varGet (notifyVM optionDecls vm vars) o.var = some e.toks := by
  exact tableOK.notify ho hv hhi vars hsorted he

/-- unknown keys and malformed values stop `parse` with an error, before anything else -/
theorem unknown_cli_option_fails (args : List String) (file : String → Option (List String))
    (e : PErr) (h : parseCLI (described optionDecls cliGroups) args = .error e) :
    ∃ e', parseOptions optionDecls cliGroups cfgGroups optionAliases args file = .error e' := by
  exact ⟨e, parseOptions_cli_error h⟩

/-- a leading token that belongs to no option (it does not start with a dash) stops `parse` with an error,
    whatever follows it: no positional arguments are defined (`no_positional` in the generated skeleton) -/
theorem leading_stray_token_fails (t : String) (rest : List String) (file : String → Option (List String))
    (h1 : t.startsWith "--" = false) (h2 : (t.startsWith "-" && decide (t.length > 1)) = false) :
    parseOptions optionDecls cliGroups cfgGroups optionAliases (t :: rest) file = .error .tooManyPositional := by
  have h : parseCLI (described optionDecls cliGroups) (t :: rest) = .error .tooManyPositional := by
    simp [parseCLI, parseCLIAux, h1, h2]
  exact parseOptions_cli_error h

example : ("stray".startsWith "--" = false) ∧ (("stray".startsWith "-" && decide ("stray".length > 1)) = false) := by
  decide +kernel

theorem malformed_value_fails (desc : List OptSpec) (p : Parsed) (vm : VM) (final : List String)
    (k : String) (vals : List String) (o : OptSpec) (hk : (k, vals) ∈ p) (hf : final.contains k = false)
    (ho : findOpt desc k = some o) (hbad : vals.all (wellFormed o.ty) = false)
    (hfirst : ∀ kv ∈ p, kv.1 = k → kv = (k, vals))
    (hothers : ∀ kv ∈ p, ∃ o', findOpt desc kv.1 = some o' ∧ (kv.1 ≠ k → kv.2.all (wellFormed o'.ty) = true))
    (hp : Once p) :
    ∃ e, storeParsed desc p vm final = .error e := by
  obtain ⟨e, he⟩ := storeFold_error hf ho hbad (vm, []) hk
  rw [storeParsed_eq, he]
  exact ⟨e, rfl⟩

/-- a config file that does not exist (and is not the implicit default.cfg) stops the program
    before anything is simulated -/
theorem missing_config_stops (args : List String) (file : String → Option (List String))
    (pc : Parsed) (cfgname : String)
    (hcli : parseCLI (described optionDecls cliGroups) args = .ok pc) (hpc : Once pc)
    (hname : given pc "config" = some [cfgname]) (hne : cfgname ≠ "/dev/null") (hne' : cfgname ≠ "")
    (hd : cfgname ≠ "default.cfg") (hnohelp : ∀ k ∈ ["help", "copyright", "version", "buildinfo"], given pc k = none)
    (hvalid : ∀ kv ∈ pc, ∃ o, findOpt (described optionDecls cliGroups) kv.1 = some o ∧ kv.2.all (wellFormed o.ty) = true)
    (hfile : file cfgname = none) :
    parseOptions optionDecls cliGroups cfgGroups optionAliases args file = .norun := by
  obtain ⟨vm1, final1, hs⟩ := storeParsed_succeeds (described optionDecls cliGroups) [] pc [] hvalid hpc
  rw [parseOptions_of_cli hcli, hs]
  exact parseRest_nofile (cfgNameOf_cliStore tableOK hs hpc hname) hne hne' hd hfile

/-- non-vacuity: a concrete invocation with command line, config file and an alias runs -/
example : ∃ vm vars, parseOptions optionDecls cliGroups cfgGroups optionAliases
    ["-V", "2e6", "--config", "c.cfg"] (fun p => if p = "c.cfg" then some ["RFVoltage=5e5", "GridSize=64"] else none)
    = .run vm vars ∧ (vmFind vm "AcceleratingVoltage").map (·.toks) = some ["2e6"]
      ∧ (vmFind vm "GridSize").map (·.toks) = some ["64"] := by
  have hcli : parseCLI (described optionDecls cliGroups) ["-V", "2e6", "--config", "c.cfg"] =
      .ok [("AcceleratingVoltage", ["2e6"]), ("config", ["c.cfg"])] := by
    unfold parseCLI; delta parseCLIAux parseCLIAux._f; simp only [splitOn_eq']; decide +kernel
  have hcfg : parseCfg (described optionDecls cfgGroups) ["RFVoltage=5e5", "GridSize=64"] =
      .ok [("RFVoltage", ["5e5"]), ("GridSize", ["64"])] := by
    simp only [parseCfg, splitOn_eq']; decide +kernel
  obtain ⟨vm, vars, hrun⟩ := parseOptions_runs_cfg
    (cfgFile := fun p => if p = "c.cfg" then some ["RFVoltage=5e5", "GridSize=64"] else none)
    tableOK hcli (by decide) (storable_of_check (by
      delta wellFormed isDigits; simp only [String.all_bool_eq]; decide +kernel)) (by decide) rfl (by decide)
    (by decide) (if_pos rfl) hcfg (by decide) (storable_of_check (by
      delta wellFormed isDigits; simp only [String.all_bool_eq]; decide +kernel))
  have P := precedence _ _ _ _ _ _ vm vars hcli (by decide) rfl (by decide) (by decide)
    (if_pos rfl) hcfg (by decide) hrun
  exact ⟨vm, vars, hrun, by rw [P _ (by decide)]; decide +kernel, by rw [P _ (by decide)]; decide +kernel⟩

end Inovesa.Props.C20
