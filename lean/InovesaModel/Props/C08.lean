/-
  C08 — in a multi-bunch run every bunch evolves exactly as it would on its own
  (kick part: `KickMap::apply` acts bunch-wise with the table block of that bunch).
-/
import InovesaModel.Lemmas.Kick
namespace Inovesa.Props.C08
open Inovesa Inovesa.Gen

variable {α : Type} [Field α] [CharZero α]

/-- output of a y-kick on one bunch alone: the single-bunch map with the table rows
    `base .. base+n-1` applied to that bunch's `n×n` block -/
def singleY (n : Nat) (tabs : Nat → List (Hi α)) (base : Nat) (data : Nat → α) : List α :=
  applyY n 1 0 (fun r => tabs (base + r)) data

/-- `KickMap::apply` (y) on a train = concatenation over the bunches of the single-bunch
    map built from that bunch's block of the table (`min b lastbunch`) applied to that
    bunch's data — nothing of any other bunch enters. -/
theorem applyY_blockwise (n nb lb : Nat) (tabs : Nat → List (Hi α)) (data : Nat → α) :
    applyY n nb lb tabs data
      = (List.range nb).flatMap fun b =>
          singleY n tabs (min b lb * n) (fun i => data (b * n * n + i)) := by
  simp only [singleY, applyY_single]
  unfold applyY
  simp only [Nat.add_assoc]

/-- same for the x-direction (drift): every bunch uses the one shared table -/
theorem applyX_blockwise (n nb : Nat) (tabs : Nat → List (Hi α)) (data : Nat → α) :
    applyX n nb tabs data
      = (List.range nb).flatMap fun b =>
          applyX n 1 tabs (fun i => data (b * n * n + i)) := by
  simp [applyX, List.range_one, Nat.add_assoc]

/-- each bunch's output block has `n*n` cells, so block `b` of the output is cells
    `[b*n*n, (b+1)*n*n)` -/
theorem singleY_length (n : Nat) (tabs : Nat → List (Hi α)) (base : Nat) (data : Nat → α) :
    (singleY n tabs base data).length = n * n := by
  rw [singleY, applyY_single]
  simp [List.length_flatMap, applyLine]

/-- two bunches with equal data and equal table blocks get equal outputs -/
theorem identical_bunches_stay_identical (n lb : Nat) (tabs : Nat → List (Hi α))
    (data : Nat → α) (b1 b2 : Nat)
    (hdata : ∀ i, i < n * n → data (b1 * n * n + i) = data (b2 * n * n + i))
    (htab : ∀ x, x < n → tabs (min b1 lb * n + x) = tabs (min b2 lb * n + x)) :
    singleY n tabs (min b1 lb * n) (fun i => data (b1 * n * n + i))
      = singleY n tabs (min b2 lb * n) (fun i => data (b2 * n * n + i)) := by
  rw [singleY, singleY, applyY_single, applyY_single]
  refine List.flatMap_congr fun x hx => ?_
  rw [List.mem_range] at hx
  rw [htab x hx]
  exact applyLine_congr _ _ _ _ fun s hs => hdata _ (flat_lt hx hs)

end Inovesa.Props.C08
