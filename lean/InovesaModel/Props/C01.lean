/-
  C01 — every transport step conserves the charge of a distribution inside the grid.
  Kick part (wake kick, RF kick, drift = `KickMap::apply` with different offset fields)
  and identity.  The Fokker–Planck part is in Props/C01FP.lean.
-/
import InovesaModel.Lemmas.Kick
import InovesaModel.Props.C02
namespace Inovesa.Props.C01
open Inovesa Inovesa.Gen Inovesa.Props.C02

variable {α : Type} [Field α] [CharZero α]

/-- FULL-STRENGTH statement (as the property reads): one line of a kick conserves its sum
    whenever the support stays inside the grid before and after the displacement.
    This is FALSE of the code (`kick_line_conserves_full_false`): `updateSM` drops every
    weight whose *table index* `jd + j − (it−1)/2` is not `< n`, so rows displaced by about
    half the grid (`jd < (it−1)/2` or `jd + (it−1) − (it−1)/2 ≥ n`) lose charge although nothing
    leaves the grid.  Recorded as known finding `kick-table-edge` (replayed on the
    implementation by the check).  Proved part: `kick_line_conserves_partial`. -/
def KickLineConservesFull : Prop :=
  ∀ (β : Type) [Field β] [CharZero β] (n it jd : Nat), ValidIt it → n < 2 ^ 31 →
    ∀ (xip : β) (rd : Nat → β),
    InteriorLine n it jd rd →
    (applyLine n (smRowOf n it jd xip) rd).sum = ((List.range n).map rd).sum

/-- One line of a kick conserves its sum, for every order, mesh size, integer part,
    fractional part and (signed) data with interior support — provided the stencil of the row
    lies in the table (`StencilIn`: the displacement is less than about half the grid). -/
theorem kick_line_conserves_partial (n it jd : Nat) (hit : ValidIt it) (hn : n < 2 ^ 31)
    (xip : α) (rd : Nat → α) (hint : InteriorLine n it jd rd) (hst : StencilIn n it jd) :
    (applyLine n (smRowOf n it jd xip) rd).sum = ((List.range n).map rd).sum := by
  rw [applyLine, sum_map_range, sum_map_range]
  exact kick_line_conserves n it jd hit hn xip rd hst hint

omit [CharZero α] in
/-- the hypotheses of `KickLineConservesFull` hold in the counterexample -/
theorem interior_counterexample :
    InteriorLine 4 2 3 (fun s => if s = 2 then (1 : α) else 0) := by
  refine ⟨by norm_num, ?_⟩
  intro j hj s hs hne
  have hs2 : s = 2 := by
    by_contra h
    exact hne (if_neg h)
  subst hs2
  omega

/-- witness: n = 4, linear interpolation, jd = 3, xip = 1/2, unit impulse at cell 2:
    the line ends with sum 1/2 -/
theorem kick_line_conserves_full_false : ¬ KickLineConservesFull := by
  intro H
  have h := H ℚ 4 2 3 (Or.inr (Or.inl rfl)) (by norm_num) (1 / 2)
    (fun s => if s = 2 then 1 else 0) interior_counterexample
  rw [edge_row_loses_charge] at h
  simp [List.range_succ] at h

/-- Whole train, y-direction kick (RF kick, wake kick): if every line of every bunch is
    interior for the row it is transported with (and the row's stencil lies in the table),
    the plain sum over all cells of all bunches is unchanged.  `rows r = (jd, xip)` is the
    split of `n/2 + offset[r]`. -/
theorem applyY_conserves_partial (n nb lb it : Nat) (hit : ValidIt it) (hn : n < 2 ^ 31)
    (rows : Nat → Nat × α) (data : Nat → α)
    (hint : ∀ b, b < nb → ∀ x, x < n →
      InteriorLine n it (rows (min b lb * n + x)).1 (fun s => data (b * n * n + x * n + s)))
    (hst : ∀ b, b < nb → ∀ x, x < n → StencilIn n it (rows (min b lb * n + x)).1) :
    (applyY n nb lb (fun r => smRowOf n it (rows r).1 (rows r).2) data).sum
      = ((List.range (nb * n * n)).map data).sum :=
  applyY_sum_eq n nb lb _ data fun b hb x hx =>
    kick_line_conserves n it _ hit hn _ _ (hst b hb x hx) (hint b hb x hx)

/-- Whole train, x-direction kick (drift), same hypotheses. -/
theorem applyX_conserves_partial (n nb it : Nat) (hit : ValidIt it) (hn : n < 2 ^ 31)
    (rows : Nat → Nat × α) (data : Nat → α)
    (hint : ∀ b, b < nb → ∀ y, y < n →
      InteriorLine n it (rows y).1 (fun s => data (b * n * n + s * n + y)))
    (hst : ∀ y, y < n → StencilIn n it (rows y).1) :
    (applyX n nb (fun r => smRowOf n it (rows r).1 (rows r).2) data).sum
      = ((List.range (nb * n * n)).map data).sum :=
  applyX_sum_eq n nb _ data fun b hb y hy =>
    kick_line_conserves n it _ hit hn _ _ (hst y hy) (hint b hb y hy)

/-- non-vacuity: an impulse in the middle of a 16-cell line is interior for a cubic
    stencil displaced by one cell -/
example : InteriorLine 16 4 9 (fun s => if s = 8 then (1 : ℚ) else 0) := by
  refine ⟨by norm_num, ?_⟩
  intro j hj s hs hne
  have hs8 : s = 8 := by
    by_contra h
    exact hne (if_neg h)
  subst hs8
  omega

/-- non-vacuity of the added hypothesis in the same case -/
example : StencilIn 16 4 9 := by unfold StencilIn; omega

end Inovesa.Props.C01
