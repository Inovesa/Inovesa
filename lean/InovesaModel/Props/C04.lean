/-
  C04 — without impedance every start relaxes to the unit-width natural Gaussian.
  Moment calculus of the generated Fokker–Planck stencil (energy direction) and the
  closed form / convergence of the second-moment recurrence it implies.
-/
import InovesaModel.Props.C01FP
import Mathlib.Algebra.Order.Field.Basic
import Mathlib.Analysis.SpecificLimits.Basic
namespace Inovesa.Props.C04
open Inovesa Inovesa.Gen Inovesa.Props.C01FP

section moments
variable {α : Type} [Field α] [CharZero α]

/-- energy coordinate of row j -/
def pOf (pmin delta : α) (j : Nat) : α := pmin + (j : α) * delta

/-- k-th energy moment of a line -/
def mom (n : Nat) (pmin delta : α) (k : Nat) (f : Nat → α) : α :=
  ((List.range n).map fun y => pOf pmin delta y ^ k * f y).sum

/-- 3-point stencil, column moments of an interior column `s` (2 ≤ s ≤ n−3), full
    Fokker–Planck term: `Σ_y p_y^k A[y][s]` for k = 0,1,2. -/
theorem fp3_full_col_moments (n jc : Nat) (ltyc : Nat → Bool) (hn' : n < 2 ^ 31)
    (e1 delta pmin : α) (hd : delta ≠ 0) (s : Nat) (hs : 2 ≤ s) (hs' : s + 3 ≤ n) :
    let A := fpRowAt 3 3 n jc ltyc e1 delta (pOf pmin delta)
    let ps := pOf pmin delta s
    colMoment n A (fun _ => 1) s = 1 ∧
    colMoment n A (fun y => pOf pmin delta y) s = (1 - e1) * ps ∧
    colMoment n A (fun y => pOf pmin delta y ^ 2) s
      = (1 - 2 * e1) * ps ^ 2 + e1 * (2 - delta ^ 2) := by
  obtain ⟨h0, h1, h2⟩ := band3_col_moments n _ e1 e1 delta hd (by norm_num)
    (pOf pmin delta) (grid_succ pmin delta) s hs hs' fun y hy =>
    fp3_entry 3 n jc ltyc (by simp) hn' e1 delta _ y s (by omega) hy
  exact ⟨h0, h1, h2.trans (by ring)⟩

/-- damping only -/
theorem fp3_damping_col_moments (n jc : Nat) (ltyc : Nat → Bool) (hn' : n < 2 ^ 31)
    (e1 delta pmin : α) (hd : delta ≠ 0) (s : Nat) (hs : 2 ≤ s) (hs' : s + 3 ≤ n) :
    let A := fpRowAt 3 1 n jc ltyc e1 delta (pOf pmin delta)
    let ps := pOf pmin delta s
    colMoment n A (fun _ => 1) s = 1 ∧
    colMoment n A (fun y => pOf pmin delta y) s = (1 - e1) * ps ∧
    colMoment n A (fun y => pOf pmin delta y ^ 2) s
      = (1 - 2 * e1) * ps ^ 2 - e1 * delta ^ 2 := by
  obtain ⟨h0, h1, h2⟩ := band3_col_moments n _ e1 0 delta hd (by norm_num)
    (pOf pmin delta) (grid_succ pmin delta) s hs hs' fun y hy =>
    fp3_entry 1 n jc ltyc (by simp) hn' e1 delta _ y s (by omega) hy
  exact ⟨h0, h1, h2.trans (by ring)⟩

/-- diffusion only -/
theorem fp3_diffusion_col_moments (n jc : Nat) (ltyc : Nat → Bool) (hn' : n < 2 ^ 31)
    (e1 delta pmin : α) (hd : delta ≠ 0) (s : Nat) (hs : 2 ≤ s) (hs' : s + 3 ≤ n) :
    let A := fpRowAt 3 2 n jc ltyc e1 delta (pOf pmin delta)
    let ps := pOf pmin delta s
    colMoment n A (fun _ => 1) s = 1 ∧
    colMoment n A (fun y => pOf pmin delta y) s = ps ∧
    colMoment n A (fun y => pOf pmin delta y ^ 2) s = ps ^ 2 + 2 * e1 := by
  obtain ⟨h0, h1, h2⟩ := band3_col_moments n _ 0 e1 delta hd (by norm_num)
    (pOf pmin delta) (grid_succ pmin delta) s hs hs' fun y hy =>
    fp3_entry 2 n jc ltyc (by simp) hn' e1 delta _ y s (by omega) hy
  exact ⟨h0, h1.trans (by ring), h2.trans (by ring)⟩

/-- neither: the map is the identity on interior columns -/
theorem fp3_none_col_moments (n jc : Nat) (ltyc : Nat → Bool) (hn' : n < 2 ^ 31)
    (e1 delta pmin : α) (hd : delta ≠ 0) (s : Nat) (hs : 2 ≤ s) (hs' : s + 3 ≤ n)
    (g : Nat → α) :
    colMoment n (fpRowAt 3 0 n jc ltyc e1 delta (pOf pmin delta)) g s = g s := by
  obtain ⟨t, rfl⟩ : ∃ t, s = t + 2 := ⟨s - 2, by omega⟩
  refine (colMoment_band n _ _ g t (by omega) fun y hy =>
    fp3_entry 0 n jc ltyc (by simp) hn' e1 delta _ y (t + 2) (by omega) hy).trans ?_
  rw [row3_interior n _ _ _ _ (t + 3) (by omega) (by omega),
    row3_interior n _ _ _ _ (t + 2) (by omega) (by omega),
    row3_interior n _ _ _ _ (t + 1) (by omega) (by omega)]
  simp [row3_fst, row3_last, w3, damp, diff, wRow_zero]

/-- 4-point stencil, full term, columns away from the switch row and the border:
    same zeroth and first moments, second moment without the `δ²` discretisation term. -/
theorem fp4_full_col_moments (n jc : Nat) (ltyc : Nat → Bool) (hn' : n < 2 ^ 31)
    (hsplit : ∀ j, j < jc → ltyc j = true)
    (e1 delta pmin : α) (hd : delta ≠ 0) (s : Nat)
    (hs : (3 ≤ s ∧ s + 2 < jc ∧ s + 5 ≤ n) ∨ (jc + 2 ≤ s ∧ 4 ≤ s ∧ s + 4 ≤ n)) :
    let A := fpRowAt 4 3 n jc ltyc e1 delta (pOf pmin delta)
    let ps := pOf pmin delta s
    colMoment n A (fun _ => 1) s = 1 ∧
    colMoment n A (fun y => pOf pmin delta y) s = (1 - e1) * ps ∧
    colMoment n A (fun y => pOf pmin delta y ^ 2) s = (1 - 2 * e1) * ps ^ 2 + 2 * e1 := by
  exact band4_col_moments n jc _ e1 e1 delta hd (by norm_num) (pOf pmin delta)
    (grid_succ pmin delta) s hs fun y hy =>
    fp4_entry 3 n jc ltyc (by simp) hn' e1 delta _ y s (by omega) hsplit hy (by omega)

/-- Moment balance of one line of any table with indices inside the line: against a trial
    recurrence `m_k' = x·m_k + y·m_0`, every source cell carries the defect of its column. -/
theorem mom_defect (n : Nat) (pmin delta : α) (k : Nat) (rowAt : Nat → List (Hi α)) (rd : Nat → α)
    (hidx : ∀ y, y < n → ∀ h ∈ rowAt y, h.1 < n) (x y : α) :
    mom n pmin delta k (fun j => fpCell (rowAt j) rd)
      - (x * mom n pmin delta k rd + y * mom n pmin delta 0 rd)
      = ((List.range n).map fun s => rd s *
          (colMoment n rowAt (fun j => pOf pmin delta j ^ k) s - (x * pOf pmin delta s ^ k + y))).sum := by
  simp only [mom, pow_zero, one_mul]
  rw [fp_transport n rowAt rd _ hidx, sum_map_range, sum_map_range, sum_map_range,
    sum_map_range, Finset.mul_sum, Finset.mul_sum, ← Finset.sum_add_distrib,
    ← Finset.sum_sub_distrib]
  exact Finset.sum_congr rfl fun s _ => by ring

/-- … so the recurrence holds exactly when the data sit on columns without defect -/
theorem mom_step (n : Nat) (pmin delta : α) (k : Nat) (rowAt : Nat → List (Hi α)) (rd : Nat → α)
    (hidx : ∀ y, y < n → ∀ h ∈ rowAt y, h.1 < n) (x y : α)
    (hcol : ∀ s, s < n → rd s ≠ 0 →
      colMoment n rowAt (fun j => pOf pmin delta j ^ k) s = x * pOf pmin delta s ^ k + y) :
    mom n pmin delta k (fun j => fpCell (rowAt j) rd)
      = x * mom n pmin delta k rd + y * mom n pmin delta 0 rd := by
  refine sub_eq_zero.mp ((mom_defect n pmin delta k rowAt rd hidx x y).trans
    (range_sum_eq_list n _ [] List.nodup_nil (by simp) fun s hs _ => ?_))
  by_cases h0 : rd s = 0
  · rw [h0, zero_mul]
  · rw [hcol s hs h0, sub_self, mul_zero]

/-- One Fokker–Planck step (3-point, full) on a line supported on 2 ≤ s ≤ n−3 maps the
    energy moments by  m0' = m0,  m1' = (1−e1)·m1,  m2' = (1−2e1)·m2 + e1(2−δ²)·m0. -/
theorem fp3_full_moment_step (n jc : Nat) (ltyc : Nat → Bool) (hn : 3 ≤ n) (hn' : n < 2 ^ 31)
    (e1 delta pmin : α) (hd : delta ≠ 0) (rd : Nat → α)
    (hsupp : ∀ s, s < n → rd s ≠ 0 → 2 ≤ s ∧ s + 3 ≤ n) :
    let out : Nat → α := fun y => fpCell (fpRowAt 3 3 n jc ltyc e1 delta (pOf pmin delta) y) rd
    mom n pmin delta 0 out = mom n pmin delta 0 rd ∧
    mom n pmin delta 1 out = (1 - e1) * mom n pmin delta 1 rd ∧
    mom n pmin delta 2 out
      = (1 - 2 * e1) * mom n pmin delta 2 rd + e1 * (2 - delta ^ 2) * mom n pmin delta 0 rd := by
  have hidx := fun y hy => fp3_indices_in_range 3 n jc ltyc hn hn' e1 delta (pOf pmin delta) y hy
  have hcm := fun s (hs : s < n) (h0 : rd s ≠ 0) =>
    fp3_full_col_moments n jc ltyc hn' e1 delta pmin hd s (hsupp s hs h0).1 (hsupp s hs h0).2
  refine ⟨?_, ?_, mom_step n pmin delta 2 _ rd hidx _ _ fun s hs h0 => (hcm s hs h0).2.2⟩
  · simpa using mom_step n pmin delta 0 _ rd hidx 1 0 fun s hs h0 => by simpa using (hcm s hs h0).1
  · simpa using mom_step n pmin delta 1 _ rd hidx (1 - e1) 0 fun s hs h0 => by
      simpa using (hcm s hs h0).2.1

/-- The same step for arbitrary data, with the boundary leakage as an explicit remainder:
    the defect of each moment recurrence is carried by the four outermost columns only. -/
theorem fp3_full_moment_step_remainder (n jc : Nat) (ltyc : Nat → Bool) (hn : 4 ≤ n) (hn' : n < 2 ^ 31)
    (e1 delta pmin : α) (hd : delta ≠ 0) (rd : Nat → α) :
    let A := fpRowAt 3 3 n jc ltyc e1 delta (pOf pmin delta)
    let out : Nat → α := fun y => fpCell (A y) rd
    let B : List Nat := [0, 1, n - 2, n - 1]
    mom n pmin delta 2 out
      - ((1 - 2 * e1) * mom n pmin delta 2 rd + e1 * (2 - delta ^ 2) * mom n pmin delta 0 rd)
      = (B.map fun s => rd s *
          (colMoment n A (fun y => pOf pmin delta y ^ 2) s
            - ((1 - 2 * e1) * pOf pmin delta s ^ 2 + e1 * (2 - delta ^ 2)))).sum := by
  intro A out B
  refine (mom_defect n pmin delta 2 A rd (fun y hy =>
    fp3_indices_in_range 3 n jc ltyc (by omega) hn' e1 delta _ y hy) _ _).trans
    (range_sum_eq_list n _ B (by simp [B]; omega) (by simp [B]; omega) fun s hs hB => ?_)
  simp only [B, List.mem_cons, List.not_mem_nil, or_false, not_or] at hB
  rw [(fp3_full_col_moments n jc ltyc hn' e1 delta pmin hd s (by omega) (by omega)).2.2, sub_self,
    mul_zero]

end moments

section affine
/-! the affine recurrence `x ↦ q·x + b` about its fixed point `xs` -/

theorem affine_step {R : Type} [CommRing R] (q b xs x : R) (hfix : q * xs + b = xs) :
    q * x + b - xs = q * (x - xs) := by
  linear_combination hfix

theorem affine_rec_closed {R : Type} [CommRing R] (q b xs : R) (hfix : q * xs + b = xs)
    (x : Nat → R) (hrec : ∀ k, x (k + 1) = q * x k + b) (k : Nat) :
    x k - xs = q ^ k * (x 0 - xs) := by
  induction k with
  | zero => rw [pow_zero, one_mul]
  | succ k ih => rw [pow_succ', mul_assoc, ← ih, hrec, affine_step q b xs _ hfix]

variable {α : Type} [Field α] [LinearOrder α] [IsStrictOrderedRing α]

/-- with a perturbation `r k`, `|r k| ≤ ρ`, and `0 ≤ q < 1` the iterate stays within
    `q^k·|x 0 − xs| + ρ/(1−q)` of the fixed point -/
theorem affine_rec_perturbed (q b xs ρ : α) (hq0 : 0 ≤ q) (hq1 : q < 1) (hfix : q * xs + b = xs)
    (x r : Nat → α) (hr : ∀ k, |r k| ≤ ρ) (hrec : ∀ k, x (k + 1) = q * x k + b + r k) (k : Nat) :
    |x k - xs| ≤ q ^ k * |x 0 - xs| + ρ / (1 - q) := by
  have h1 : 0 < 1 - q := sub_pos.mpr hq1
  have hρ : 0 ≤ ρ / (1 - q) := div_nonneg ((abs_nonneg _).trans (hr 0)) h1.le
  induction k with
  | zero => rw [pow_zero, one_mul]; exact le_add_of_nonneg_right hρ
  | succ k ih =>
    have e : x (k + 1) - xs = q * (x k - xs) + r k := by
      rw [hrec, ← affine_step q b xs _ hfix]; ring
    have hq : ρ / (1 - q) * (1 - q) = ρ := div_mul_cancel₀ ρ h1.ne'
    calc |x (k + 1) - xs| ≤ q * |x k - xs| + |r k| := by
          rw [e, ← abs_of_nonneg hq0, ← abs_mul, abs_of_nonneg hq0]; exact abs_add_le _ _
      _ ≤ q * (q ^ k * |x 0 - xs| + ρ / (1 - q)) + ρ :=
          add_le_add (mul_le_mul_of_nonneg_left ih hq0) (hr k)
      _ = q ^ (k + 1) * |x 0 - xs| + ρ / (1 - q) := by linear_combination (-1 : α) * hq

end affine

section recurrence
/-! The scalar recurrences the moment steps induce, iterated over any number of steps. -/
variable {α : Type} [Field α] [LinearOrder α] [IsStrictOrderedRing α]

/-- `c/(2e1)` is the fixed point of `x ↦ (1−2e1)·x + c` -/
theorem second_moment_fixed (e1 c : α) (he : e1 ≠ 0) :
    (1 - 2 * e1) * (c / (2 * e1)) + c = c / (2 * e1) := by
  linear_combination (-1 : α) * div_mul_cancel₀ c (mul_ne_zero two_ne_zero he)

/-- closed form of `x_{k+1} = (1−2e1)·x_k + c` (c = e1·(2−δ²)·m0): the distance to the
    fixed point `x* = c/(2e1)` shrinks by the factor `(1−2e1)` per step -/
theorem second_moment_closed_form (e1 c : α) (he : e1 ≠ 0) (x : Nat → α)
    (hrec : ∀ k, x (k + 1) = (1 - 2 * e1) * x k + c) (k : Nat) :
    x k - c / (2 * e1) = (1 - 2 * e1) ^ k * (x 0 - c / (2 * e1)) := by
  exact affine_rec_closed _ c _ (second_moment_fixed e1 c he) x hrec k

/-- fixed point of the full 3-point step for a normalised line (m0 = 1):
    `σ*² = 1 − δ²/2`, independent of the start -/
theorem fixed_point_value (e1 delta : α) (he : e1 ≠ 0) :
    e1 * (2 - delta ^ 2) * 1 / (2 * e1) = 1 - delta ^ 2 / 2 := by
  field_simp

/-- within the stable range `0 < e1 < 1/2` the distance to the fixed point decreases
    monotonically -/
theorem second_moment_monotone (e1 c : α) (he : 0 < e1) (he' : e1 < 1 / 2) (x : Nat → α)
    (hrec : ∀ k, x (k + 1) = (1 - 2 * e1) * x k + c) (k : Nat) :
    |x (k + 1) - c / (2 * e1)| ≤ |x k - c / (2 * e1)| := by
  rw [hrec, affine_step _ c _ _ (second_moment_fixed e1 c he.ne'), abs_mul,
    abs_of_nonneg (by linarith)]
  exact mul_le_of_le_one_left (abs_nonneg _) (by linarith)

/-- perturbed recurrence (boundary leakage `r k`, `|r k| ≤ ρ`): the iterate stays within
    `(1−2e1)^k·|x0 − x*| + ρ/(2e1)` of the fixed point -/
theorem second_moment_with_leakage (e1 c ρ : α) (he : 0 < e1) (he' : e1 < 1 / 2)
    (x r : Nat → α) (hr : ∀ k, |r k| ≤ ρ)
    (hrec : ∀ k, x (k + 1) = (1 - 2 * e1) * x k + c + r k) (k : Nat) :
    |x k - c / (2 * e1)| ≤ (1 - 2 * e1) ^ k * |x 0 - c / (2 * e1)| + ρ / (2 * e1) := by
  have h := affine_rec_perturbed (1 - 2 * e1) c _ ρ (by linarith) (by linarith)
    (second_moment_fixed e1 c he.ne') x r hr hrec k
  rwa [sub_sub_cancel] at h

/-- damping only: the second moment shrinks monotonically towards `−δ²/2·m0 ≤ 0`, i.e. a
    positive second moment decreases strictly (x_{k+1} < x_k when x_k > 0, m0 ≥ 0) -/
theorem damping_only_shrinks (e1 delta m0 : α) (he : 0 < e1) (he' : e1 < 1 / 2) (hm : 0 ≤ m0)
    (x : Nat → α) (hrec : ∀ k, x (k + 1) = (1 - 2 * e1) * x k - e1 * delta ^ 2 * m0)
    (k : Nat) (hx : 0 < x k) : x (k + 1) < x k := by
  rw [hrec]
  have h1 : 0 ≤ e1 * delta ^ 2 * m0 := by positivity
  have h2 : 0 < e1 * x k := mul_pos he hx
  linarith

/-- diffusion only: the second moment grows monotonically (m0 > 0) -/
theorem diffusion_only_grows (e1 m0 : α) (he : 0 < e1) (hm : 0 < m0)
    (x : Nat → α) (hrec : ∀ k, x (k + 1) = x k + 2 * e1 * m0) (k : Nat) : x k < x (k + 1) := by
  rw [hrec]
  have : 0 < e1 * m0 := mul_pos he hm
  linarith

end recurrence

/-- convergence over the reals: for `0 < e1 < 1/2` the second moment converges to the fixed
    point from any start -/
theorem second_moment_converges (e1 c : ℝ) (he : 0 < e1) (he' : e1 < 1 / 2) (x : ℕ → ℝ)
    (hrec : ∀ k, x (k + 1) = (1 - 2 * e1) * x k + c) :
    Filter.Tendsto x Filter.atTop (nhds (c / (2 * e1))) := by
  have hx : x = fun k => (1 - 2 * e1) ^ k * (x 0 - c / (2 * e1)) + c / (2 * e1) := by
    funext k
    have := second_moment_closed_form e1 c he.ne' x hrec k
    linarith
  rw [hx]
  have h := (tendsto_pow_atTop_nhds_zero_of_lt_one (r := 1 - 2 * e1) (by linarith) (by linarith))
  have h2 := (h.mul_const (x 0 - c / (2 * e1))).add_const (c / (2 * e1))
  simpa using h2

/-- non-vacuity: the recurrence hypotheses are met by an explicit sequence -/
example : ∃ x : ℕ → ℚ, (∀ k, x (k + 1) = (1 - 2 * (1/10 : ℚ)) * x k + 1/5) ∧ x 0 = 4 := by
  refine ⟨fun k => Nat.rec 4 (fun _ v => (1 - 2 * (1/10 : ℚ)) * v + 1/5) k, fun k => rfl, rfl⟩

end Inovesa.Props.C04
