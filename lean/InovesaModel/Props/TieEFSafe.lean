/-
  The window of every bunch in the padded buffers, on the GENERATED pieces of both ends: the lengths main() computes
  (Gen/Sizes.lean) and the offsets `ElectricField` uses (Gen/EFIndex.lean).  `padBunchProfiles` copies `nx` cells to
  `bucket*spacing`, `wakePotential` reads `bucket*spacing + x`; both stay below the buffer length = number of
  impedance samples, for every filling pattern, spacing, padding and rounding option.
-/
import InovesaModel.Props.C17
import InovesaModel.Gen.EFIndex
namespace Inovesa.Props.TieEFSafe
open Inovesa Inovesa.Gen Inovesa.Props.C17

/-- whatever the number of buckets: the copy window `[dest, dest + count)` ends inside the buffer, and every read-back
    index is inside the window -/
theorem pad_and_read (i : SizeIn) (up2 : Nat → Nat) (hup : ∀ v, v ≤ up2 v) (k x : Nat) (hk : k < i.nbuckets)
    (hx : x < i.psBins) :
    efPadDest (bucketNumber i k) (sizes i up2).wakeSpacing + efPadCount i.psBins ≤ (sizes i up2).wakeLength ∧
    efWakeRead (bucketNumber i k) (sizes i up2).wakeSpacing x < (sizes i up2).wakeLength := by
  have h : bucketNumber i k * (sizes i up2).wakeSpacing + i.psBins ≤ (sizes i up2).wakeLength :=
    (Nat.lt_or_ge 1 i.nbuckets).elim (fun h => pad_fits_multi i up2 hup h k hk)
      (fun h => pad_fits_single i up2 hup (by omega) k hk)
  exact ⟨h, Nat.lt_of_lt_of_le (Nat.add_lt_add_left hx _) h⟩

/-- multi-bucket runs: the copy window `[dest, dest + count)` ends inside the buffer, and every read-back index is
    inside it -/
theorem pad_and_read_in_buffer (i : SizeIn) (up2 : Nat → Nat) (hup : ∀ v, v ≤ up2 v)
    (hnb : 1 < i.nbuckets) (k x : Nat) (hk : k < i.nbuckets) (hx : x < i.psBins) :
    efPadDest (bucketNumber i k) (sizes i up2).wakeSpacing + efPadCount i.psBins ≤ (sizes i up2).wakeLength ∧
    efWakeRead (bucketNumber i k) (sizes i up2).wakeSpacing x < (sizes i up2).wakeLength :=
  pad_and_read i up2 hup k x hk hx

/-- single-bucket runs -/
theorem pad_and_read_in_buffer_single (i : SizeIn) (up2 : Nat → Nat) (hup : ∀ v, v ≤ up2 v)
    (hnb : i.nbuckets = 1) (k x : Nat) (hk : k < i.nbuckets) (hx : x < i.psBins) :
    efPadDest (bucketNumber i k) (sizes i up2).wakeSpacing + efPadCount i.psBins ≤ (sizes i up2).wakeLength ∧
    efWakeRead (bucketNumber i k) (sizes i up2).wakeSpacing x < (sizes i up2).wakeLength :=
  pad_and_read i up2 hup k x hk hx

/-- the impedance is read below the loss-loop bound only, which is inside a table of `nmax` samples -/
theorem loss_loop_in_table (nmax k : Nat) (hk : k < efLossBound nmax) : k < nmax :=
  Nat.lt_of_lt_of_le hk (Nat.div_le_self nmax 2)

end Inovesa.Props.TieEFSafe
