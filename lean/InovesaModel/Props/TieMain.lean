/-
  Tie theorems for the time-step family of main() (Gen/StepParams.lean, regenerated from src/main.cpp on every
  run): every quantity that depends on the number of steps per synchrotron period is derived from ONE `steps`.
-/
import InovesaModel.Gen.StepParams
import InovesaModel.Lemmas.Field
import Mathlib.Tactic.FieldSimp
import Mathlib.Tactic.NormNum
namespace Inovesa.Props.TieMain
open Inovesa

variable {β : Type} [Field β]

/-- However the number of steps per synchrotron period is given, the time step, the rotation angle, the
    revolution fraction, the damping decrement and the RF-modulation increment that main() derives belong to
    the same `steps`: `dt·f_s·steps = 1`, `angle·steps = 2π`, `revolutionpart = f_rev·dt`,
    `e1·f_s·t_damp·steps = 2`, `rf_mod_step = f_mod·dt` -/
theorem step_family_is_consistent (fs steps tDamp fRev modFreq twoPi : β)
    (h1 : fs ≠ 0) (h2 : steps ≠ 0) (h3 : tDamp ≠ 0) :
    Gen.pDt fs steps * (fs * steps) = 1 ∧
    Gen.pAngle twoPi steps * steps = twoPi ∧
    Gen.pRevolutionpart fRev (Gen.pDt fs steps) = fRev * Gen.pDt fs steps ∧
    Gen.pE1 true fs tDamp steps * (fs * tDamp * steps) = 2 ∧
    Gen.pE1 false fs tDamp steps = 0 ∧
    Gen.pRfModStep modFreq (Gen.pDt fs steps) = modFreq * Gen.pDt fs steps := by
  have h12 : fs * steps ≠ 0 := mul_ne_zero h1 h2
  refine ⟨?_, div_mul_cancel₀ _ h2, rfl, ?_, ?_, rfl⟩
  · rw [Gen.pDt, lit_one, Int.cast_one, one_div, inv_mul_cancel₀ h12]
  · rw [Gen.pE1, if_pos rfl, lit_one, Int.cast_ofNat, mul_right_comm fs, div_mul_cancel₀ _ (mul_ne_zero h12 h3)]
  · rw [Gen.pE1, if_neg Bool.false_ne_true, lit_one, Int.cast_zero]

/-- `StepsPerRevolution > 0` "overwrites StepsPerTs": then `steps·f_s = StepsPerRevolution·f_rev`, i.e. the same
    number of steps per REVOLUTION whatever `StepsPerTs` says; otherwise `steps = max(StepsPerTs, 1)` -/
theorem steps_choice_is_code (spTrev spTsync1 fRev fs : β) (h1 : fs ≠ 0) :
    Gen.pSteps true spTrev spTsync1 fRev fs * fs = spTrev * fRev ∧
    Gen.pSteps false spTrev spTsync1 fRev fs = spTsync1 := by
  exact ⟨div_mul_cancel₀ _ h1, rfl⟩

/-- a set damping time ≥ 0 is used as it is, a negative one means "computed from the ring parameters" -/
theorem damping_time_choice_is_code (setDamp calcDamp : β) :
    Gen.pTDamp true setDamp calcDamp = calcDamp ∧ Gen.pTDamp false setDamp calcDamp = setDamp :=
  ⟨rfl, rfl⟩

/-- non-vacuity: 200 steps per period at f_s = 8 kHz, damping time 1 ms: e1 = 2/1600 -/
example {γ : Type} [Field γ] [CharZero γ] : Gen.pE1 true (8000 : γ) (1 / 1000) 200 = 1 / 800 := by
  rw [Gen.pE1, if_pos rfl, lit_one]; norm_num

end Inovesa.Props.TieMain
