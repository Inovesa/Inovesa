/-
  Tie theorems for the impedance factory (Gen/Factory.lean, regenerated from src/Z/ImpedanceFactory.cpp on every
  run): the hand model `factoryContributions` (Model/Impedance.lean, used by the C16 theorems `factory_none_iff`,
  `factory_selection`) selects exactly the additions the code performs, for all 64 settings of the six switches,
  and every contribution is constructed from the arguments the model's builders and the correspondence cases assume.
-/
import InovesaModel.Model.Impedance
import InovesaModel.Gen.Factory
namespace Inovesa.Props.TieFactory
open Inovesa Inovesa.Gen

/-- truth value of a condition of makeImpedance (canonical text of the AST) under the switches of the model -/
def condVal (c : FactoryCfg) : String → Option Bool
  | "(gap != 0)" => some c.gapNonzero
  | "use_csr" => some c.useCSR
  | "(gap > 0)" => some c.gapPositive
  | "((s > 0) && (xi >= -1))" => some c.wall
  | "((0 < inner_coll_radius) && (inner_coll_radius < radius))" => some c.collimator
  | "(impedance_file != \"\")" => some c.file
  | _ => none

/-- model name of the contribution a class stands for -/
def clsName : String → String
  | "ParallelPlatesCSR" => "parallel-plates"
  | "FreeSpaceCSR" => "free-space"
  | "ResistiveWall" => "resistive-wall"
  | "CollimatorImpedance" => "collimator"
  | "Impedance" => "file"
  | s => s

/-- the additions of the GENERATED list whose path conditions all hold -/
def selected (c : FactoryCfg) : List String :=
  (factoryAdds.filter fun a => a.conds.all fun tb => condVal c tb.1 == some tb.2).map fun a => clsName a.cls

def bools : List Bool := [false, true]

def allCfgs : List FactoryCfg :=
  bools.flatMap fun a => bools.flatMap fun b => bools.flatMap fun c => bools.flatMap fun d =>
    bools.flatMap fun e => bools.map fun f =>
      { gapNonzero := a, gapPositive := b, useCSR := c, wall := d, collimator := e, file := f }

theorem mem_bools (b : Bool) : b ∈ bools := by cases b <;> decide

theorem allCfgs_complete (c : FactoryCfg) : c ∈ allCfgs :=
  List.mem_flatMap.2 ⟨_, mem_bools c.gapNonzero, List.mem_flatMap.2 ⟨_, mem_bools c.gapPositive,
    List.mem_flatMap.2 ⟨_, mem_bools c.useCSR, List.mem_flatMap.2 ⟨_, mem_bools c.wall,
      List.mem_flatMap.2 ⟨_, mem_bools c.collimator, List.mem_map.2 ⟨_, mem_bools c.file, rfl⟩⟩⟩⟩⟩⟩

/-- SELECTION: for every setting of the switches the model adds exactly what the code adds, in the same order,
    and returns nothing exactly when the code returns the null pointer -/
theorem factory_selection_is_code (c : FactoryCfg) :
    factoryContributions c = (if (selected c).isEmpty then none else some (selected c)) := by
  have h : ∀ c ∈ allCfgs, factoryContributions c = (if (selected c).isEmpty then none else some (selected c)) := by
    decide
  exact h c (allCfgs_complete c)

/-- every condition text of the generated list is one the model knows -/
theorem factory_conditions_known :
    ∀ a ∈ factoryAdds, ∀ tb ∈ a.conds, ∀ c ∈ allCfgs, (condVal c tb.1).isSome = true := by
  -- whether a text is known does not depend on the switches: one setting decides it
  have indep : ∀ (s : String) (c c' : FactoryCfg), (condVal c s).isSome = (condVal c' s).isSome := by
    intro s c c'
    unfold condVal
    split <;> rfl
  have h : ∀ a ∈ factoryAdds, ∀ tb ∈ a.conds, (condVal ⟨false, false, false, false, false, false⟩ tb.1).isSome = true := by
    decide
  exact fun a ha tb htb c _ => (indep _ _ _).trans (h a ha tb htb)

/-- ARGUMENTS: how each contribution is constructed — in particular the resistive wall from the REVOLUTION
    frequency and the circumference `c/frev`, with the pipe radius `|gap/2|`; the CSR terms from
    `f0 = c/(2π R_bend)`; the table read from the file is ADDED to the zero table of `nfreqs` samples -/
theorem factory_arguments_are_code :
    factoryAdds.map (fun a => (a.cls, a.args)) =
      [("ParallelPlatesCSR", ["nfreqs", "f0", "fmax", "gap"]),
       ("FreeSpaceCSR", ["nfreqs", "f0", "fmax"]),
       ("ResistiveWall", ["nfreqs", "frev", "fmax", "(physcons::c / frev)", "s", "xi", "radius"]),
       ("CollimatorImpedance", ["nfreqs", "fmax", "radius", "inner_coll_radius"]),
       ("Impedance", ["impedance_file", "fmax"])] ∧
    factoryLocals = [("f0", "(physcons::c / (two_pi() * R_bend))"), ("rv", "Impedance(nfreqs, fmax, oclh)"),
                     ("radius", "abs((gap / 2))")] :=
  ⟨rfl, rfl⟩

/-- every addition marks the impedance as changed; only an unchanged one is replaced by the null pointer -/
theorem factory_null_is_code :
    factoryEveryAddMarked = true ∧ factoryNullGuard = [("!impedance_changed", true)] :=
  ⟨rfl, rfl⟩

/-- non-vacuity: the default configuration (gap 0.03, CSR on) selects parallel plates only -/
example : selected { gapNonzero := true, gapPositive := true, useCSR := true, wall := false, collimator := false,
                     file := false } = ["parallel-plates"] := by decide

end Inovesa.Props.TieFactory
