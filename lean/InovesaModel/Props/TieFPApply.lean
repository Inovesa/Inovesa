/-
  Tie theorems (FokkerPlanckMap::apply and Identity::apply; translator fragment G13, Gen/FPApply.lean, regenerated from
  the C++ on every run): the flattened addresses of the hand model `fpApply` (Model/FokkerPlanck.lean) are the generated
  ones, every bunch, every column and every row is visited, every address lies inside the grid, and the identity map
  copies the whole train.
-/
import InovesaModel.Model.FokkerPlanck
import InovesaModel.Gen.FPApply
import InovesaModel.Lemmas.Index
namespace Inovesa.Props.TieFPApply
open Inovesa

/-- the loop nest visits bunch × x × y × table entry, in this order, each from 0 -/
theorem fp_apply_loops_are_code (nb n ip : Nat) : Gen.fpApplyBounds nb n n ip = [nb, n, n, ip] := rfl

/-- the cell read by the hand model, `data (b·n·n + x·n + s)`, is the generated read address (square grid) -/
theorem fp_apply_read_is_code (b n x s : Nat) :
    b * n * n + x * n + s = Gen.fpApplyRead (Gen.fpApplyOffs (Gen.fpApplyOffs1 b n n) x n) s := rfl

/-- position of the cell `(b, x, y)` in the list the hand model produces = generated write address -/
theorem fp_apply_write_is_code (b n x y : Nat) :
    b * n * n + x * n + y = Gen.fpApplyWrite (Gen.fpApplyOffs (Gen.fpApplyOffs1 b n n) x n) y := rfl

/-- table slot of entry `j` of row `y`: the rows are shared by all bunches and all columns -/
theorem fp_apply_table_is_code (y ip j : Nat) : Gen.fpApplyTab y ip j = y * ip + j := rfl

/-- every address written lies inside the grid of `nb·n·n` cells, and so does every address read whose table index
    is a row of the grid (which `C17.fp_reads_in_bounds` proves of the generated constructor) -/
theorem fp_apply_in_bounds (nb n b x y idx : Nat) (hb : b < nb) (hx : x < n) (hy : y < n) (hi : idx < n) :
    Gen.fpApplyWrite (Gen.fpApplyOffs (Gen.fpApplyOffs1 b n n) x n) y < nb * n * n
    ∧ Gen.fpApplyRead (Gen.fpApplyOffs (Gen.fpApplyOffs1 b n n) x n) idx < nb * n * n :=
  ⟨flat3_lt hb hx hy, flat3_lt hb hx hi⟩

/-- the identity map (wake kick without impedance, Fokker-Planck step without damping) copies every cell of every bunch -/
theorem ident_copies_whole_train (nb n : Nat) : Gen.identCopyCount nb (n * n) = nb * n * n := by
  simp [Gen.identCopyCount, Nat.mul_assoc]

example : Gen.fpApplyRead (Gen.fpApplyOffs (Gen.fpApplyOffs1 1 4 4) 2 4) 3 = 27 := by decide

end Inovesa.Props.TieFPApply
