/-
  Whole-run liftings.  The per-map theorems of C01 (charge), C08 (bunch independence), C09
  (normalisation), C17 (index safety) … speak about one application of one map.  Here they are
  carried through the GENERATED simulation part of main() (Gen/MainProgram.lean: initial block,
  loop body, final block) for every number of steps, every output cadence and every
  configuration: whatever every map of the loop preserves holds for the grid at every loop head,
  in every record written to the file, and for the final grid.  The physics is uninterpreted
  (`Sem V`), so the statement applies to any instantiation of the maps.
-/
import InovesaModel.Lemmas.Main
import InovesaModel.Props.C14
namespace Inovesa.Props.Whole
open Inovesa Inovesa.Gen Inovesa.Props.C14

variable {V : Type}

/-- every map the loop can apply to the grid preserves `I` -/
structure MapsPreserve (sem : Sem V) (I : V → Prop) : Prop where
  kick : ∀ g w, I g → I (sem.kick g w)
  ident : ∀ g, I g → I (sem.ident g)
  rfStatic : ∀ g, I g → I (sem.rfStatic g)
  rfDyn : ∀ g r, I g → I (sem.rfDyn g r)
  drift : ∀ g, I g → I (sem.drift g)
  fp : ∀ g, I g → I (sem.fp g)
  normalize : ∀ g f, I g → I (sem.normalize g f)

section
variable {sem : Sem V} {I : V → Prop} (h : MapsPreserve sem I)
include h

theorem MapsPreserve.gridR (rn : Int) (n : Nat) (g xp : V) (hg : I g) : I (gridR sem rn n g xp) := by
  unfold Inovesa.gridR
  split
  · exact h.normalize _ _ hg
  · exact hg

theorem MapsPreserve.rfGrid (hd : Bool) (g : V) (q : List V) (hg : I g) : I (rfGrid sem hd g q) := by
  unfold Inovesa.rfGrid
  cases hd with
  | false => exact h.rfStatic _ hg
  | true =>
    cases q with
    | nil => exact hg
    | cons r _ => exact h.rfDyn _ _ hg

theorem MapsPreserve.stepGrid (rn : Int) (hw hd : Bool) (n : Nat) (g xp : V) (q : List V) (hg : I g) :
    I (stepGrid sem rn hw hd n g xp q) := by
  have hR := h.gridR rn n g xp hg
  refine h.fp _ (h.drift _ (h.rfGrid hd _ q ?_))
  cases hw with
  | false => exact h.ident _ hR
  | true => exact h.kick _ _ hR

/-- the grid of the physical state at every loop head -/
theorem MapsPreserve.physAt (c : MCfg) (s0 : MState V) (h0 : I s0.grid) (k : Nat) : I (physAt sem c s0 k).2.1 := by
  induction k with
  | zero => exact h0
  | succ k ih => exact h.stepGrid _ _ _ _ _ _ _ ih

end

/-- … hence it holds at every loop head, for every number `k` of executed steps -/
theorem grid_invariant_at_every_step (sem : Sem V) (c : MCfg) (I : V → Prop) (h : MapsPreserve sem I)
    (s0 : MState V) (h0 : I s0.grid) (k : Nat) : I (atHead sem c k s0).grid := by
  rw [show (atHead sem c k s0).grid = (physAt sem c s0 k).2.1 from congrArg (·.2.1) (physOf_atHead sem c k s0)]
  exact h.physAt c s0 h0 k

/-- … for the grid the run ends with (after the final block) -/
theorem final_grid_invariant (sem : Sem V) (c : MCfg) (I : V → Prop) (h : MapsPreserve sem I)
    (s0 : MState V) (h0 : I s0.grid) (k : Nat) : I (runFor sem c k s0).grid := by
  rw [runFor_grid, finalGridOf]
  split
  · exact h.gridR _ _ _ _ (h.physAt c s0 h0 k)
  · exact h.physAt c s0 h0 k

/-- … for the grid behind every record of the time-indexed datasets -/
theorem records_invariant (sem : Sem V) (c : MCfg) (I : V → Prop) (h : MapsPreserve sem I)
    (s0 : MState V) (h0 : I s0.grid) (hr : s0.file.recs = []) (k : Nat) :
    ∀ r ∈ (runFor sem c k s0).file.recs, I r.ghostGrid := by
  intro r hm
  rw [runFor_recs_mem sem c k s0 hr r hm]
  exact h.gridR _ _ _ _ (h.physAt c s0 h0 _)

/-- … and for every stored phase space -/
theorem phase_space_records_invariant (sem : Sem V) (c : MCfg) (I : V → Prop) (h : MapsPreserve sem I)
    (s0 : MState V) (h0 : I s0.grid) (hp : s0.file.ps = []) (k : Nat) :
    ∀ e ∈ (runFor sem c k s0).file.ps, I e.2 := by
  intro e he
  rcases List.mem_append.1 ((runFor_ps sem c k s0 hp).subset he) with he | he
  · split at he
    · cases List.mem_singleton.1 he; exact h0
    · cases he
  · obtain ⟨i, -, rfl⟩ := List.mem_map.1 he
    exact h.gridR _ _ _ _ (h.physAt c s0 h0 i)

/-- CONSERVED QUANTITY: a functional of the grid that no map changes (the charge, for data
    supported in the interior: C01) has its initial value at every step and in every record -/
theorem conserved_quantity {β : Type} (sem : Sem V) (c : MCfg) (Q : V → β)
    (hk : ∀ g w, Q (sem.kick g w) = Q g) (hi : ∀ g, Q (sem.ident g) = Q g)
    (hrs : ∀ g, Q (sem.rfStatic g) = Q g) (hrd : ∀ g r, Q (sem.rfDyn g r) = Q g)
    (hd : ∀ g, Q (sem.drift g) = Q g) (hf : ∀ g, Q (sem.fp g) = Q g)
    (hn : ∀ g f, Q (sem.normalize g f) = Q g)
    (s0 : MState V) (k : Nat) :
    Q (atHead sem c k s0).grid = Q s0.grid ∧ Q (runFor sem c k s0).grid = Q s0.grid := by
  have h : MapsPreserve sem (fun g => Q g = Q s0.grid) :=
    { kick := fun g w hg => (hk g w).trans hg
      ident := fun g hg => (hi g).trans hg
      rfStatic := fun g hg => (hrs g).trans hg
      rfDyn := fun g r hg => (hrd g r).trans hg
      drift := fun g hg => (hd g).trans hg
      fp := fun g hg => (hf g).trans hg
      normalize := fun g f hg => (hn g f).trans hg }
  exact ⟨grid_invariant_at_every_step sem c _ h s0 rfl k, final_grid_invariant sem c _ h s0 rfl k⟩

/-- non-vacuity: the trivial semantics on `Nat` (every map the identity) preserves everything -/
example : MapsPreserve (V := Nat)
    { xproj := id, yproj := id, integ := id, normalize := fun g _ => g, mom0 := fun a _ => a,
      mom1 := fun a _ => a, wake := id, wakepad := id, csr := id, kick := fun g _ => g, ident := id,
      rfStatic := id, rfDyn := fun g _ => g, drift := id, fp := id, track := fun _ t _ => t }
    (fun g => g = 7) := by
  exact { kick := fun _ _ hg => hg, ident := fun _ hg => hg, rfStatic := fun _ hg => hg,
          rfDyn := fun _ _ hg => hg, drift := fun _ hg => hg, fp := fun _ hg => hg,
          normalize := fun _ _ hg => hg }

end Inovesa.Props.Whole
