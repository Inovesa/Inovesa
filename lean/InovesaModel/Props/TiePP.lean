/-
  Tie theorems (ParallelPlatesCSR::__calcImpedance; translator fragment G9j, Gen/PPlates.lean, regenerated from the C++
  on every run).  The driver evaluates these generated definitions in binary64 (the Airy functions are supplied by the
  check) and the result is compared with the real table; here the hand model of Model/Impedance.lean is tied to them
  and the facts the theorems of C16 rest on are proved from the generated expressions.
-/
import InovesaModel.Model.Impedance
import InovesaModel.Gen.PPlates
import InovesaModel.Lemmas.Field
import Mathlib.Algebra.Order.Field.Basic
namespace Inovesa.Props.TiePP
open Inovesa Inovesa.Gen.PP

section ties
variable {α : Type} [Arith α]

/-- the summand of the hand model is the generated one: real part `Ai'² + u·Ai²`, imaginary part `−Ai'·Bi' − u·Ai·Bi` -/
theorem pp_summand_is_code (acc : Cx α) (u ai aip bi bip : α) :
    ((acc.1 + (aip * aip + u * (ai * ai)), acc.2 + (-(aip * bip) - u * (ai * bi))) : Cx α)
      = (acc.1 + zincRe u ai aip bi bip, acc.2 + zincIm u ai aip bi bip) := rfl

/-- samples `1 … nfreqs/2` are filled (every one of them, odd modes `p = 1, 3, …`), sample 0 and the upper half stay 0;
    a library exception ends the mode sum of that sample -/
theorem pp_loops_are_code (n : Nat) :
    iFirst = 1 ∧ iStep = 1 ∧ iLast n = n / 2 ∧ pFirst = 1 ∧ pStep = 2 ∧ catchEndsSum = true :=
  ⟨rfl, rfl, rfl, rfl, rfl, rfl⟩

end ties

section field
variable {α : Type} [Field α]

/-- the locals of one sample hold their defining expressions; `r32` (rounding of a binary32 sub-expression) is the
    identity in exact arithmetic -/
structure Chain (E : PPEnv α) : Prop where
  h_r32 : ∀ x, E.r32 x = x
  h_delta : E.v_delta = p_delta E
  h_r_bend : E.v_r_bend = p_r_bend E
  h_n : E.v_n = p_n E
  h_m : E.v_m = p_m E
  h_b : E.v_b = p_b E
  h_u : E.v_u = p_u E
  h_maxp : E.v_maxp = p_maxp E

/-- frequency of sample `i` in units of the revolution harmonic: `n = i·f_max/(f0·(nfreqs−1))` -/
theorem pp_harmonic (E : PPEnv α) (h : Chain E) :
    E.v_n = E.v_i * (E.o_f_max / E.o_f0 / (E.o_nfreqs - 1)) := by
  rw [h.h_n, p_n, h.h_delta, p_delta, h.h_r32, lit_one, Int.cast_one]

/-- the bound of the mode sum: `maxp = 2·n·f0·g/c`, i.e. `n·g/(π·R)` — the plate modes below cut-off of harmonic `n`
    (hypothesis: the two powers `(g/R)^{3/2}` and `(R/g)^{3/2}` are reciprocal, true of the real power function) -/
theorem pp_mode_bound (E : PPEnv α) (h : Chain E)
    (hp : E.powf (E.o_g / E.v_r_bend) (3 / 2) * E.powf (E.v_r_bend / E.o_g) (3 / 2) = 1) :
    E.v_maxp = 2 * E.v_n * E.o_f0 * E.o_g / E.k_c := by
  rw [h.h_maxp, p_maxp, h.h_m, p_m]
  simp only [lit_one, Int.cast_ofNat]
  rw [← mul_assoc, mul_assoc (2 * E.v_n), hp, mul_one]

/-- and with `R = c/(2π f0)` (the generated `r_bend`): `maxp·π·R = n·g` -/
theorem pp_mode_bound_radius [CharZero α] (E : PPEnv α) (h : Chain E)
    (hp : E.powf (E.o_g / E.v_r_bend) (3 / 2) * E.powf (E.v_r_bend / E.o_g) (3 / 2) = 1)
    (hc : E.k_c ≠ 0) (hpi : E.k_pi ≠ 0) (hf : E.o_f0 ≠ 0) :
    E.v_maxp * (E.k_pi * E.v_r_bend) = E.v_n * E.o_g := by
  rw [pp_mode_bound E h hp, h.h_r_bend, p_r_bend, lit_one, Int.cast_ofNat]
  field_simp

/-- the factor the mode sum is multiplied with: `4·π²·2^{1/3}·Z0 · (g/R) · n · b` -/
theorem pp_scale_is_code (E : PPEnv α) :
    p_scale E = 4 * E.v_b * E.v_n * E.o_g / E.v_r_bend * E.k_pi_sqr * E.powf 2 (1 / 3) * E.k_Z0 := by
  simp only [p_scale, lit_one, Int.cast_ofNat, Int.cast_one]

end field

section ordered
variable {α : Type} [Field α] [LinearOrder α] [IsStrictOrderedRing α]

/-- every mode contributes a non-negative real part for `u ≥ 0` (passivity of the parallel-plates model, C16) -/
theorem pp_summand_passive (u ai aip bi bip : α) (hu : 0 ≤ u) : 0 ≤ zincRe u ai aip bi bip :=
  add_nonneg (mul_self_nonneg aip) (mul_nonneg hu (mul_self_nonneg ai))

end ordered

example : zincRe (1 : ℚ) 2 3 4 5 = 13 ∧ zincIm (1 : ℚ) 2 3 4 5 = -23 := by
  constructor <;> norm_num [zincRe, zincIm]

end Inovesa.Props.TiePP
