/-
  Tie theorems for the results file (Gen/H5Appends.lean, regenerated from src/IO/HDF5File.cpp on every run): what
  one call of each append method writes.  The main-program model (Model/MainProgram.lean: `execCall` for
  `file.appendGrid.*`, `file.appendCSR`, `file.appendWake`, …) and the theorems C10.lengths_equal / time_axis rest on
  exactly this record structure.
-/
import InovesaModel.Gen.H5Appends
namespace Inovesa.Props.TieH5
open Inovesa.Gen

def callsOf (sig : String) : List H5Append := ((h5Appends.find? (·.1 == sig)).map (·.2)).getD []

def under (sig cond : String) : List (String × String) :=
  ((callsOf sig).filter fun a => a.conds == [(cond, true)]).map fun a => (a.dataset, a.source)

/-- ONE RECORD: whenever anything but a bare phase space is appended, the time axis and all seven per-record
    datasets get exactly one row each, from the sources the model's `MRec` names (profile = x-projection, energy
    profile = y-projection, position/mean energy = first moments, length/spread, population) -/
theorem record_is_appended_together :
    under "append(PhaseSpace&, timeaxis_t, HDF5File::AppendType)" "at != AppendType::PhaseSpace" =
      [("_timeAxis", "&t"), ("_bunchProfile", "ps.getProjection(0).origin()"),
       ("_bunchLength", "ps.getBunchLength().origin()"), ("_bunchPosition", "mean_q.origin()"),
       ("_energyProfile", "ps.getProjection(1).origin()"), ("_energySpread", "ps.getEnergySpread().origin()"),
       ("_energyAverage", "mean_E.origin()"), ("_bunchPopulation", "ps.getBunchPopulation().data()")] ∧
    h5Locals = [("mean_q", "ps.getMoment(0,0)"), ("mean_E", "ps.getMoment(1,0)")] :=
  ⟨by decide +kernel, rfl⟩

/-- the phase space is stored together with its own time axis, and only for `All` / `PhaseSpace` -/
theorem phase_space_with_its_axis :
    under "append(PhaseSpace&, timeaxis_t, HDF5File::AppendType)" "at == AppendType::All || at == AppendType::PhaseSpace" =
      [("_timeAxisPS", "&t"), ("_phaseSpace", "ps.getData()")] ∧
    (callsOf "append(PhaseSpace&, timeaxis_t, HDF5File::AppendType)").length = 10 := by
  decide +kernel

/-- wake, tracks, RF kicks, padded buffers: one dataset (two for the padded pair) per call, unconditionally;
    CSR: the intensity always, the spectrum only with `fullspectrum` -/
theorem other_appends :
    callsOf "append(WakeKickMap*)" = [{ conds := [], dataset := "_wakePotential", source := "wkm->getForce()" }] ∧
    (callsOf "appendTracks(std::vector<PhaseSpace::Position>&)").map (·.dataset) = ["_particles"] ∧
    (callsOf "appendRFKicks(std::vector<std::array<meshaxis_t,2>>&)").map (·.dataset) = ["_dynamicRFKick"] ∧
    (callsOf "appendPadded(ElectricField*)").map (fun a => (a.conds, a.dataset)) = [([], "_paddedProfile"), ([], "_paddedPotential")] ∧
    (callsOf "append(ElectricField*, bool)").map (fun a => (a.conds, a.dataset)) =
      [([("fullspectrum", true)], "_csrSpectrum"), ([], "_csrIntensity")] := by
  decide +kernel

/-- the HDF5 names the checks' oracles read -/
theorem dataset_paths :
    h5Paths = [("_bunchLength", "/BunchLength/data"), ("_bunchPopulation", "/BunchPopulation/data"),
      ("_bunchPosition", "/BunchPosition/data"), ("_bunchProfile", "/BunchProfile/data"),
      ("_csrIntensity", "/CSR/Intensity/data"), ("_csrSpectrum", "/CSR/Spectrum/data"),
      ("_dynamicRFKick", "/RFKicks/data"), ("_energyAverage", "/EnergyAverage/data"),
      ("_energyProfile", "/EnergyProfile/data"), ("_energySpread", "/EnergySpread/data"),
      ("_paddedPotential", "/WakePotential/padded"), ("_paddedProfile", "/BunchProfile/padded"),
      ("_particles", "/Particles/data"), ("_phaseSpace", "/PhaseSpace/data"), ("_timeAxis", "/Info/AxisValues_t"),
      ("_timeAxisPS", "/PhaseSpace/axis0"), ("_wakePotential", "/WakePotential/data")] :=
  rfl

end Inovesa.Props.TieH5
