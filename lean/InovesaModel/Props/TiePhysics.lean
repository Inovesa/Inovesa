/-
  The physical parameter chain of main() (translator fragment G4c, Gen/Physics.lean, regenerated from src/main.cpp on
  every run): theorems proved FROM THE GENERATED EXPRESSIONS, in any field of characteristic 0, for every value of the
  options.  `Chain E` says that each local variable of main() holds the expression the source gives it; the library
  functions `sqrt`, `pow`, `sign` are parameters of the environment and enter through exactly the hypotheses named in
  each theorem.

  What the properties rest on:
    * C03 / C05 / C11: the phase-space box is square, `pqsize` wide on both axes, and the origin lies exactly
      `PhaseSpaceShift` cells off the grid centre (`box_*`, `origin_on_grid`); the first slippage coefficient is the
      rotation angle itself and the higher orders are scaled by the SAME `alpha0` that defines the synchrotron
      frequency (`slip_is_angle`, `slip_higher_orders`, `alpha0_is_chain_value`);
    * C05 / C06: synchrotron frequency and momentum compaction are two descriptions of one machine
      (`fs_alpha0_duality`), the natural bunch length is `sigma_delta·alpha0·c/(2π f_s)` in either description
      (`bunch_length_relation`), bunch spacing and highest frequency are measured in units of that length
      (`spacing_relation`, `fmax_relation`);
    * C04: the damping time computed from the radiated energy is `E0/(V0·f_rev)` (`damping_time_relation`);
    * C11: a run continued from a results file gets the same box and the same scales as a fresh one
      (`same_box_for_both_starts`).
-/
import InovesaModel.Gen.Physics
import InovesaModel.Gen.StepParams
import InovesaModel.Lemmas.Field
import Mathlib.Tactic.LinearCombination
namespace Inovesa.Props.TiePhysics
open Inovesa Inovesa.Gen.Phys

variable {α : Type} [Field α] [CharZero α]

/-- the four edges of the box, from its centre and `pqsize` -/
theorem box (E : PhysEnv α) (h : Chain E) :
    (E.v_qmax = E.v_qcenter + E.v_pqsize / 2 ∧ E.v_qmin = E.v_qcenter - E.v_pqsize / 2) ∧
    (E.v_pmax = E.v_pcenter + E.v_pqsize / 2 ∧ E.v_pmin = E.v_pcenter - E.v_pqsize / 2) := by
  have hh : E.v_pqhalf = E.v_pqsize / 2 := by rw [h.h_pqhalf, p_pqhalf, lit_one, Int.cast_ofNat]
  rw [h.h_qmax, h.h_qmin, h.h_pmax, h.h_pmin, p_qmax, p_qmin, p_pmax, p_pmin, hh]
  exact ⟨⟨rfl, rfl⟩, rfl, rfl⟩

/-- both axes of the box are `pqsize` wide: the grid is square in physical units too -/
theorem box_width (E : PhysEnv α) (h : Chain E) :
    E.v_qmax - E.v_qmin = E.v_pqsize ∧ E.v_pmax - E.v_pmin = E.v_pqsize := by
  obtain ⟨⟨h1, h2⟩, h3, h4⟩ := box E h
  rw [h1, h2, h3, h4]
  constructor <;> ring

theorem box_centre (E : PhysEnv α) (h : Chain E) :
    E.v_qmax + E.v_qmin = 2 * E.v_qcenter ∧ E.v_pmax + E.v_pmin = 2 * E.v_pcenter := by
  obtain ⟨⟨h1, h2⟩, h3, h4⟩ := box E h
  rw [h1, h2, h3, h4]
  constructor <;> ring

/-- equal cell size on both axes (what the single Simpson weight vector and the wake scaling assume) -/
theorem box_square_cells (E : PhysEnv α) (h : Chain E) :
    (E.v_qmax - E.v_qmin) / (E.v_ps_bins - 1) = (E.v_pmax - E.v_pmin) / (E.v_ps_bins - 1) := by
  rw [(box_width E h).1, (box_width E h).2]

/-- the physical origin lies on the grid, `PhaseSpaceShiftX` (resp. `…Y`) cells off the centre cell `(n−1)/2`:
    `qmin + ((n−1)/2 + shift)·delta = 0` with `delta = (qmax−qmin)/(n−1)` -/
theorem origin_on_grid (E : PhysEnv α) (h : Chain E) (hn : E.v_ps_bins - 1 ≠ 0) :
    E.v_qmin + ((E.v_ps_bins - 1) / 2 + E.o_getPSShiftX) * ((E.v_qmax - E.v_qmin) / (E.v_ps_bins - 1)) = 0
    ∧ E.v_pmin + ((E.v_ps_bins - 1) / 2 + E.o_getPSShiftY) * ((E.v_pmax - E.v_pmin) / (E.v_ps_bins - 1)) = 0 := by
  rw [(box_width E h).1, (box_width E h).2, (box E h).1.2, (box E h).2.2, h.h_qcenter, h.h_pcenter, p_qcenter,
    p_pcenter, lit_one, Int.cast_one]
  generalize E.v_ps_bins - 1 = d at hn ⊢
  constructor <;> field_simp <;> ring

/-- `V_eff² + V0² = V_RF²` (the hypothesis is the defining property of the square root at the one argument used) -/
theorem effective_voltage (E : PhysEnv α) (h : Chain E)
    (hs : E.sqrtf (E.v_V_RF * E.v_V_RF - E.v_V0 * E.v_V0) * E.sqrtf (E.v_V_RF * E.v_V_RF - E.v_V0 * E.v_V0)
            = E.v_V_RF * E.v_V_RF - E.v_V0 * E.v_V0) :
    E.v_V_eff * E.v_V_eff + E.v_V0 * E.v_V0 = E.v_V_RF * E.v_V_RF := by
  rw [h.h_V_eff]
  simp only [p_V_eff]
  rw [hs]; ring

/-- the relation between synchrotron frequency and momentum compaction that BOTH branches of main() establish:
    `f_s² · 2π·E0 = f_rev² · alpha0 · h · V_eff` -/
def Machine (E : PhysEnv α) : Prop :=
  E.v_fs * E.v_fs * (E.twoPi * E.v_E0) = E.v_f_rev * E.v_f_rev * (E.v_alpha0_tmp * E.v_harmonic_number * E.v_V_eff)

/-- synchrotron frequency given (non-zero, positive): the derived `alpha0` satisfies the machine relation -/
theorem fs_alpha0_duality_given_fs (E : PhysEnv α) (h : Chain E) (hz : E.flag_fs_is_zero = false)
    (hsign : E.signf E.v_fs = 1) (hpow : ∀ x : α, E.powf x 2 = x * x)
    (hfrev : E.v_f_rev ≠ 0) (hhv : E.v_harmonic_number * E.v_V_eff ≠ 0) : Machine E := by
  unfold Machine
  rw [h.h_alpha0_tmp, hz, if_neg Bool.false_ne_true, p_alpha0_derived, lit_one, Int.cast_ofNat, hpow, hsign]
  have hh : E.v_harmonic_number ≠ 0 := left_ne_zero_of_mul hhv
  have hv : E.v_V_eff ≠ 0 := right_ne_zero_of_mul hhv
  field_simp

/-- synchrotron frequency not given: the derived `f_s` satisfies the same relation (square-root hypothesis at the
    one argument used) -/
theorem fs_alpha0_duality_given_alpha0 (E : PhysEnv α) (h : Chain E) (hz : E.flag_fs_is_zero = true)
    (hs : ∀ x : α, E.sqrtf x * E.sqrtf x = x) (h2pe : E.twoPi * E.v_E0 ≠ 0) : Machine E := by
  unfold Machine
  rw [h.h_fs, hz, if_pos rfl, p_fs_derived, mul_mul_mul_comm E.v_f_rev, hs, mul_assoc, div_mul_cancel₀ _ h2pe]

/-- natural bunch length: `bl · 2π · f_s = c · sigma_delta · alpha0`, in either description of the machine -/
theorem bunch_length_relation (E : PhysEnv α) (h : Chain E) (hm : Machine E)
    (hpow : ∀ x : α, E.powf x 2 = x * x) (hE0 : E.v_E0 ≠ 0) (h2p : E.twoPi ≠ 0)
    (hden : E.v_harmonic_number ≠ 0 ∧ E.v_f_rev ≠ 0 ∧ E.v_V_eff ≠ 0) :
    E.v_bl * (E.twoPi * E.v_fs) = E.k_c * E.v_sE * E.v_alpha0_tmp := by
  obtain ⟨hh, hf, hv⟩ := hden
  unfold Machine at hm
  rw [h.h_bl, p_bl, lit_one, Int.cast_ofNat, hpow, h.h_dE, p_dE]
  field_simp
  have : E.v_fs * E.v_fs * E.twoPi * E.v_E0 = E.v_f_rev * E.v_f_rev * E.v_alpha0_tmp * E.v_harmonic_number * E.v_V_eff := by
    linear_combination hm
  linear_combination (E.k_c * E.v_sE) * this

/-- the drift's first-order coefficient is the rotation angle of the RF kick; higher orders are scaled by the
    ratio to the `alpha0` OF THE CHAIN (derived from `f_s` when that is given) -/
theorem slip_is_angle (E : PhysEnv α) (h : Chain E) : E.v_slip 0 = E.v_angle :=
  (Option.some.inj (h.h_slip 0 (by norm_num))).symm

/-- together with the generated `angle = 2π/steps` (Gen/StepParams): the first-order drift per step, summed over one
    synchrotron period, is `2π` — the drift turns the bunch at the same rate as the RF kick (C03) -/
theorem slip_times_steps (E : PhysEnv α) (h : Chain E) (steps : α) (hs : steps ≠ 0)
    (ha : E.v_angle = Gen.pAngle E.twoPi steps) : E.v_slip 0 * steps = E.twoPi := by
  rw [slip_is_angle E h, ha, Gen.pAngle]
  field_simp

theorem slip_higher_orders (E : PhysEnv α) (h : Chain E) (ha : E.v_alpha 0 ≠ 0) :
    E.v_slip 1 * E.v_alpha 0 = E.v_alpha 1 * E.v_angle ∧ E.v_slip 2 * E.v_alpha 0 = E.v_alpha 2 * E.v_angle := by
  rw [← Option.some.inj (h.h_slip 1 (by norm_num)), ← Option.some.inj (h.h_slip 2 (by norm_num))]
  constructor <;> rw [mul_right_comm, div_mul_cancel₀ _ ha]

theorem alpha0_is_chain_value (E : PhysEnv α) (h : Chain E) :
    E.v_alpha 0 = E.v_alpha0_tmp ∧ E.v_alpha 1 = E.o_getAlpha1 ∧ E.v_alpha 2 = E.o_getAlpha2 :=
  ⟨(Option.some.inj (h.h_alpha 0 (by norm_num))).symm, (Option.some.inj (h.h_alpha 1 (by norm_num))).symm,
    (Option.some.inj (h.h_alpha 2 (by norm_num))).symm⟩

/-- damping time from the radiated energy per turn: `t_d · V0 · f_rev = E0` -/
theorem damping_time_relation (E : PhysEnv α) (h : Chain E) (he : E.k_e ≠ 0) (hV : E.v_V0 ≠ 0) (hf : E.v_f_rev ≠ 0) :
    E.v_calc_damp * E.v_V0 * E.v_f_rev = E.v_E0 := by
  rw [h.h_calc_damp]
  simp only [p_calc_damp]
  rw [h.h_W0]
  simp only [p_W0]
  field_simp

/-- bunch charge, RF frequency, bucket spacing and highest frequency of the grid -/
theorem charge_and_spacing (E : PhysEnv α) (h : Chain E) (hf : E.v_f_rev ≠ 0) (hrf : E.v_f_RF ≠ 0) :
    E.v_Qb * E.v_f_rev = E.v_Ib ∧ E.v_f_RF = E.v_f_rev * E.v_harmonic_number ∧ E.v_bunchspacing * E.v_f_RF = 1 := by
  refine ⟨?_, h.h_f_RF, ?_⟩
  · rw [h.h_Qb]; simp only [p_Qb]; field_simp
  · rw [h.h_bunchspacing, p_bunchspacing, lit_one, Int.cast_one, one_div, inv_mul_cancel₀ hrf]

theorem spacing_relation (E : PhysEnv α) (h : Chain E) (hb : E.v_bl ≠ 0) (hp : E.v_pqsize ≠ 0) :
    E.v_spacing_ps * (E.v_pqsize * E.v_bl) = E.v_bunchspacing * E.k_c := by
  rw [h.h_spacing_ps]; simp only [p_spacing_ps]; field_simp

theorem fmax_relation (E : PhysEnv α) (h : Chain E) (hb : E.v_bl ≠ 0) (hp : E.v_pqsize ≠ 0) :
    E.v_fmax * (E.v_pqsize * E.v_bl) = E.v_ps_bins * E.k_c := by
  rw [h.h_fmax]; simp only [p_fmax]; field_simp

/-- the phase space is created with the box of the chain, length scale `bl`, energy scale `dE`, and the same box and
    scales go to a run that starts from a results file; the static sizes are (GridSize, number of filled buckets) -/
theorem same_box_for_both_starts :
    gridCtorArgs = ["qmin", "qmax", "bl", "pmin", "pmax", "dE", "oclh", "Qb", "Ib", "bunches", "zoom"]
    ∧ h5StartArgs = ["startdistfile", "opts.getStartDistStep()", "qmin", "qmax", "pmin", "pmax", "oclh", "Qb", "Ib", "bl", "dE"]
    ∧ setSizeArgs = ["ps_bins", "nbunches"] := ⟨rfl, rfl, rfl⟩

/-- the results file is created for the simulated grid, with the RADIATION field as the source of the CSR records, the
    BEAM-DYNAMICS impedance as the stored impedance (and the length of the padded records), and one particle record per
    tracked particle -/
theorem results_file_arguments :
    h5FileCtorArgs = ["ofname", "grid_t1", "&rdtn_field", "wake_impedance", "trackme.size()", "t_sync", "f_rev"] := rfl

/-! non-vacuity: a concrete environment over ℚ satisfying `Chain` for the box part is exhibited by evaluation of the
    generated expressions: GridSize 5, PhaseSpaceSize 12, shift 1 ⇒ box [−9, 3], origin at cell 3 -/
def exEnv : PhysEnv ℚ :=
  { flag_fs_is_zero := true, flag_use_set_bend := false, k_c := 1, k_e := 1, k_epsilon0 := 1,
      k_me := 1, o_getAlpha0 := 1, o_getAlpha1 := 0, o_getAlpha2 := 0, o_getBeamEnergy := 1, o_getBendingRadius := 0,
      o_getEnergySpread := 1, o_getGridSize := 5, o_getHarmonicNumber := 1, o_getPSShiftX := 1, o_getPSShiftY := 0,
      o_getPhaseSpaceSize := 12, o_getRFVoltage := 1, o_getRevolutionFrequency := 1, o_getSyncFreq := 0,
      powf := fun x _ => x * x, signf := fun _ => 1, sqrtf := id, twoPi := 6, v_E0 := 1, v_Ib := 1, v_Qb := 1, v_R_bend := 1,
      v_V0 := 0, v_V_RF := 1, v_V_eff := 1, v_W0 := 0, v_alpha := fun _ => 1, v_alpha0_tmp := 1, v_angle := 1, v_bl := 1,
      v_bunchspacing := 1, v_calc_damp := 1, v_dE := 1, v_f_RF := 1, v_f_rev := 1, v_fmax := 1, v_fs := 1,
      v_harmonic_number := 1, v_lorentzgamma := 1, v_pcenter := 0, v_pmax := 6, v_pmin := -6, v_pqhalf := 6,
      v_pqsize := 12, v_ps_bins := 5, v_qcenter := -3, v_qmax := 3, v_qmin := -9, v_sE := 1, v_slip := fun _ => 1,
      v_spacing_ps := 1 }

example : p_qcenter exEnv = -3 ∧ p_qmin exEnv = -9 ∧ p_qmax exEnv = 3
    ∧ exEnv.v_qmin + ((exEnv.v_ps_bins - 1) / 2 + exEnv.o_getPSShiftX) * 3 = 0 := by
  rw [ratLit_eq_fieldLit]
  refine ⟨?_, ?_, ?_, ?_⟩ <;> simp [exEnv, p_qcenter, p_qmin, p_qmax] <;> norm_num

end Inovesa.Props.TiePhysics
