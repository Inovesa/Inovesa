/-
  C03 — the bunch centroid rotates by 2π/steps per step and the orbit closes.
  (1) transport: a kick moves the first moment of every interior line by minus its displacement
      (generated weights, it ≥ 2); (2) the zero bin of a shifted axis is the physical origin;
  (3) algebra of the one-step map RF kick ∘ drift on the centroid: unit determinant, invariant
      quadratic form (the orbit is one ellipse), second-order recurrence; (4) the per-step phase
      advance is θ up to O(θ³) (over ℝ).
-/
import InovesaModel.Lemmas.Orbit
import InovesaModel.Props.C02
import InovesaModel.Model.Ruler
import Mathlib.Algebra.Order.Field.Basic
import Mathlib.Analysis.SpecialFunctions.Trigonometric.Bounds
namespace Inovesa.Props.C03
open Inovesa Inovesa.Gen Inovesa.Props.C02

section transport
variable {α : Type} [Field α] [CharZero α]

/-- the weights have first moment `f` about the stencil origin (orders 2,3,4) -/
theorem first_moment_weights (it : Nat) (h : it = 2 ∨ it = 3 ∨ it = 4) (f : α) :
    ((List.range it).map fun j =>
        (coeff it f).getD j 0 * ((j : α) - (((it - 1) / 2 : Nat) : α))).sum = f := by
  simpa using poly_repro_shift it (Or.inr h) 0 f 0 1 0 0 (fun h' => by exfalso; omega)
    (fun _ => rfl) (fun _ => rfl)

/-- Centroid transport of one line: with interior support and the row's stencil inside the
    table, `Σ_y y·out[y] = Σ_s (s − (D + f))·in[s]`, `D = jd − n/2`, for orders 2,3,4: every
    source cell's charge is moved by minus the displacement `D + f` (the fractional part `xip`
    included — linear interpolation of the position, not nearest cell). -/
theorem kick_line_first_moment (n it jd : Nat) (h : it = 2 ∨ it = 3 ∨ it = 4) (hn : n < 2 ^ 31)
    (xip : α) (rd : Nat → α) (hjd : jd < n) (hst : StencilIn n it jd)
    (hint : ∀ j : Nat, j < it → ∀ s : Nat, s < n → rd s ≠ 0 →
      (0 : Int) ≤ (s : Int) - (((jd : Int) - ((n / 2 : Nat) : Int)) + (j : Int) - (((it - 1) / 2 : Nat) : Int)) ∧
      (s : Int) - (((jd : Int) - ((n / 2 : Nat) : Int)) + (j : Int) - (((it - 1) / 2 : Nat) : Int)) < n) :
    ((List.range n).map fun (y : Nat) => (y : α) * applyCell n (smRowOf n it jd xip) rd y).sum
      = ((List.range n).map fun (s : Nat) => ((s : α) - (((jd : α) - ((n / 2 : Nat) : α)) + xip)) * rd s).sum := by
  rw [sum_map_range, sum_map_range]
  simpa using kick_line_moment n it jd (Or.inr h) hn xip rd hst ⟨hjd, hint⟩ 0 1 0 0
    (fun h' => by exfalso; omega) (fun _ => rfl) (fun _ => rfl)

/-- the zero bin of an axis is where the coordinate vanishes, for every (shifted) axis:
    `min + zerobin·delta = 0` -/
theorem zerobin_is_origin (steps : Nat) (mn mx : α) (hs : 2 ≤ steps) (hne : mn ≠ mx) :
    let r : Ruler α := { steps := steps, min := mn, max := mx }
    r.min + r.zerobin * r.delta = 0 := by
  intro r
  have h1 : ((steps - 1 : ℕ) : α) ≠ 0 := Nat.cast_ne_zero.mpr (by omega)
  have h2 : mn - mx ≠ 0 := sub_ne_zero.mpr hne
  simp only [r, Ruler.zerobin, Ruler.delta, lit_field]
  field_simp
  ring

end transport

section orbit
variable {α : Type} [Field α]

/-- one step on the centroid `(q, p)` (normalised units): RF kick `p' = p + t·q` (t = tan θ),
    then drift `q' = q − θ·p'` -/
def stepMap (θ t : α) (v : α × α) : α × α :=
  let p' := v.2 + t * v.1
  (v.1 - θ * p', p')

def orbit (θ t : α) (v : α × α) : Nat → α × α
  | 0 => v
  | k + 1 => stepMap θ t (orbit θ t v k)

/-- the quadratic form `t·q² + θ·t·q·p + θ·p²` -/
def Q (θ t : α) (v : α × α) : α := t * v.1 ^ 2 + θ * t * v.1 * v.2 + θ * v.2 ^ 2

/-- it is invariant under the step: the whole orbit lies on one conic, for every k -/
theorem invariant_form (θ t : α) (v : α × α) (k : Nat) : Q θ t (orbit θ t v k) = Q θ t v := by
  induction k with
  | zero => rfl
  | succ k ih => rw [← ih]; simp only [orbit, stepMap, Q]; ring

/-- the step is area preserving and linear: second-order recurrence with trace `2 − θ·t`
    (Cayley–Hamilton), for every k -/
theorem centroid_recurrence (θ t : α) (v : α × α) (k : Nat) :
    orbit θ t v (k + 2) = ((2 - θ * t) * (orbit θ t v (k + 1)).1 - (orbit θ t v k).1,
                           (2 - θ * t) * (orbit θ t v (k + 1)).2 - (orbit θ t v k).2) := by
  simp only [orbit, stepMap]
  ext <;> simp <;> ring

/-- the physical origin (zero bin of both axes) is the fixed point -/
theorem origin_fixed (θ t : α) (k : Nat) : orbit θ t (0, 0) k = (0, 0) := by
  induction k with
  | zero => rfl
  | succ k ih => simp [orbit, stepMap, ih]

end orbit

section real

/-- over an ordered field the conic is an ellipse (positive definite form) whenever
    `0 < θ`, `0 < t`, `θ·t < 4`: the orbit is bounded and turns in a fixed sense -/
theorem form_positive_definite {α : Type} [Field α] [LinearOrder α] [IsStrictOrderedRing α]
    (θ t : α) (hθ : 0 < θ) (ht : 0 < t) (h4 : θ * t < 4) (v : α × α) (hv : v ≠ (0, 0)) :
    0 < Q θ t v := by
  -- complete the square: `t·(q + θp/2)² + θ·(1 − θt/4)·p²`
  have hid : Q θ t v = t * (v.1 + θ * v.2 / 2) ^ 2 + θ * (1 - θ * t / 4) * v.2 ^ 2 := by
    unfold Q; ring
  have hc : 0 < θ * (1 - θ * t / 4) := mul_pos hθ (by linarith)
  rw [hid]
  by_cases hp : v.2 = 0
  · have hq : v.1 ≠ 0 := fun hq => hv (Prod.ext hq hp)
    rw [hp, mul_zero, zero_div, add_zero]
    exact add_pos_of_pos_of_nonneg (mul_pos ht (sq_pos_of_ne_zero hq)) (mul_nonneg hc.le (sq_nonneg _))
  · exact add_pos_of_nonneg_of_pos (mul_nonneg ht.le (sq_nonneg _)) (mul_pos hc (sq_pos_of_ne_zero hp))

/-- phase advance: the step matrix has trace `2 − θ·tan θ = 2·cos μ`; it differs from the trace
    `2·cos θ` of the exact rotation by at most `θ⁴` for `0 < θ ≤ 1/2` — the per-step angle is
    `θ·(1 + O(θ²))`, i.e. after `2π/θ` steps the orbit is closed up to the first-order
    splitting error. -/
theorem trace_close_to_rotation (θ : ℝ) (h0 : 0 < θ) (h1 : θ ≤ 1 / 2) :
    |2 - θ * Real.tan θ - 2 * Real.cos θ| ≤ θ ^ 4 := by
  have habs : |θ| ≤ 1 := by rw [abs_of_pos h0]; linarith
  have hc := Real.cos_bound habs
  have hs := Real.sin_bound habs
  rw [abs_of_pos h0] at hc hs
  rw [Real.tan_eq_sin_div_cos]
  exact trace_close_alg θ _ _ h0.le h1 hc hs

end real

/-- non-vacuity -/
example : StencilIn 16 4 9 := by unfold StencilIn; omega

end Inovesa.Props.C03
