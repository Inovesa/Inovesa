/-
  C02 — whole-cell shifts are lossless; fractional shifts reproduce polynomials.
  Property theorems only (helper lemmas live in InovesaModel/Lemmas/*).
  All statements are about the *generated* weights `Gen.coeff` (translator fragment G1,
  from SourceMap::calcCoefficiants) and the hand model of KickMap::updateSM/apply
  (Model/KickMap.lean, tied to the C++ by the correspondence check).
  Scalars: any field of characteristic zero = real-arithmetic semantics of the float code.
-/
import InovesaModel.Lemmas.Kick
namespace Inovesa.Props.C02
open Inovesa Inovesa.Gen

variable {α : Type} [Field α] [CharZero α]

/-- the weights sum to one, for every fractional offset and every order -/
theorem coeff_sum_one (it : Nat) (h : ValidIt it) (f : α) : (coeff it f).sum = 1 := by
  have := poly_repro_shift it h 0 f 1 0 0 0 (fun _ => rfl) (fun _ => rfl) (fun _ => rfl)
  rw [coeff_eq_map_getD it h f]
  simpa using this

/-- `it` weights are written -/
theorem coeff_length (it : Nat) (h : ValidIt it) (f : α) : (coeff it f).length = it := by
  rcases h with rfl | rfl | rfl | rfl <;> rfl

/-- at offset zero the weights collapse to a single unit weight at position `(it-1)/2` -/
theorem coeff_at_zero (it : Nat) (h : ValidIt it) (j : Nat) (hj : j < it) :
    (coeff it (0 : α)).getD j 0 = if j = (it - 1) / 2 then 1 else 0 := by
  rw [coeff_zero it h]
  simp only [List.getD_eq_getElem?_getD, List.getElem?_map, List.getElem?_range hj, Option.map_some,
    Option.getD_some]

/-- The `it`-point scheme reproduces every polynomial of degree `< it`:
    `Σ_j w_j(f) · P(j − (it−1)/2) = P(f)`.  `P(t) = a0 + a1 t + a2 t² + a3 t³` with the
    coefficients of degree `≥ it` forced to zero. -/
theorem poly_repro (it : Nat) (h : ValidIt it) (f a0 a1 a2 a3 : α)
    (h1 : it ≤ 1 → a1 = 0) (h2 : it ≤ 2 → a2 = 0) (h3 : it ≤ 3 → a3 = 0) :
    let P : α → α := fun t => a0 + a1 * t + a2 * t ^ 2 + a3 * t ^ 3
    (((List.range it).map fun j =>
        (coeff it f).getD j 0 * P ((j : α) - (((it - 1) / 2 : Nat) : α))).sum) = P f := by
  intro P
  simpa using poly_repro_shift it h 0 f a0 a1 a2 a3 h1 h2 h3

/-- FULL-STRENGTH statement (as the property reads): one destination cell of a kicked line
    holds `Σ_j w_j(xip)·in[y + (jd − n/2) + j − (it−1)/2]`, cells outside `[0,n)` reading as 0,
    for EVERY row with `jd < n`.  This is FALSE of the code (`applyCell_smRow_full_false`):
    `updateSM` stores weight `w_j` only if the *table index* `jd + j − (it−1)/2` (uint32) is
    `< n`, otherwise `{n/2, 0}`; rows within `(it−1)/2` cells of the table edge (displacements
    of about half the grid) lose weights although source and destination are inside the grid.
    Proved part: `applyCell_smRow_partial` (stencil of the row inside the table); exact
    unconditional form: `Inovesa.applyCell_smRow_trunc` (Lemmas/Kick.lean). -/
def ApplyCellSmRowFull : Prop :=
  ∀ (β : Type) [Field β] [CharZero β] (n it jd : Nat), ValidIt it → n < 2 ^ 31 → jd < n →
    ∀ (xip : β) (rd : Nat → β) (y : Nat), y < n →
    applyCell n (smRowOf n it jd xip) rd y
      = ((List.range it).map fun j =>
          (coeff it xip).getD j 0 *
            rdz n rd ((y : Int) + ((jd : Int) - ((n / 2 : Nat) : Int)) + (j : Int)
                       - (((it - 1) / 2 : Nat) : Int))).sum

/-- witness: n = 4, linear interpolation, jd = 3 (displacement +1.5 cells), constant data:
    destination 0 receives 1/2 instead of 1 -/
theorem applyCell_smRow_full_false : ¬ ApplyCellSmRowFull := by
  intro H
  have h := H ℚ 4 2 3 (Or.inr (Or.inl rfl)) (by norm_num) (by norm_num) (1 / 2) (fun _ => 1) 0 (by norm_num)
  rw [edge_row_const] at h
  simp [List.range_succ, rdz, coeff] at h

/-- proved part of `ApplyCellSmRowFull`: additionally the `it` table entries of the row address
    cells of the grid (`(it−1)/2 ≤ jd`, `jd + (it−1) − (it−1)/2 < n`) -/
theorem applyCell_smRow_partial (n it jd : Nat) (hit : ValidIt it) (hn : n < 2 ^ 31)
    (hjd : jd < n) (hst_lo : (it - 1) / 2 ≤ jd) (hst_hi : jd + (it - 1) - (it - 1) / 2 < n)
    (xip : α) (rd : Nat → α) (y : Nat) (hy : y < n) :
    applyCell n (smRowOf n it jd xip) rd y
      = ((List.range it).map fun j =>
          (coeff it xip).getD j 0 *
            rdz n rd ((y : Int) + ((jd : Int) - ((n / 2 : Nat) : Int)) + (j : Int)
                       - (((it - 1) / 2 : Nat) : Int))).sum :=
  applyCell_smRow_stencilIn n it jd hit.le_four hn hjd ⟨hst_lo, hst_hi⟩ xip rd y hy

/-- rows whose integer part is outside the grid are zeroed -/
theorem applyCell_outside (n it jd : Nat) (hjd : n ≤ jd) (xip : α) (rd : Nat → α) (y : Nat) :
    applyCell n (smRowOf n it jd xip) rd y = 0 := by
  rw [applyCell_eq_sum, smRowOf, if_neg (Nat.not_lt.mpr hjd), List.map_map]
  exact List.sum_eq_zero fun x hx => by
    obtain ⟨j, _, rfl⟩ := List.mem_map.mp hx
    simp only [Function.comp_apply, zero_field, mul_zero]

/-- Whole-cell displacement (fractional part 0): the same values moved by `D = jd − n/2`
    cells, zeros flowing in from outside the grid. -/
theorem shift_whole_cell (n it jd : Nat) (hit : ValidIt it) (hn : n < 2 ^ 31) (hjd : jd < n)
    (rd : Nat → α) (y : Nat) (hy : y < n) :
    applyCell n (smRowOf n it jd (0 : α)) rd y
      = rdz n rd ((y : Int) + ((jd : Int) - ((n / 2 : Nat) : Int))) := by
  have hc : (it - 1) / 2 < it := by have := hit.le_four; unfold ValidIt at hit; omega
  rw [applyCell_smRow_trunc n it jd hit.le_four hn hjd 0 rd y hy, sum_map_range,
    Finset.sum_congr rfl fun j hj => by rw [wTrunc_zero n it jd hit hjd j (Finset.mem_range.mp hj)]]
  simp only [ite_mul, one_mul, zero_mul]
  rw [Finset.sum_ite_eq' (Finset.range it) ((it - 1) / 2), if_pos (Finset.mem_range.mpr hc),
    add_sub_cancel_right]

/-- FULL-STRENGTH statement: fractional displacement of polynomial data reproduces the
    polynomial on every destination cell whose source cells are inside the grid.  FALSE of
    the code for rows at the table edge (same cause as `ApplyCellSmRowFull`);
    proved part: `poly_repro_grid_partial`. -/
def PolyReproGridFull : Prop :=
  ∀ (β : Type) [Field β] [CharZero β] (n it jd : Nat), ValidIt it → n < 2 ^ 31 → jd < n →
    ∀ (xip a0 a1 a2 a3 : β),
    (it ≤ 1 → a1 = 0) → (it ≤ 2 → a2 = 0) → (it ≤ 3 → a3 = 0) →
    ∀ (rd : Nat → β) (y : Nat), y < n →
    (0 : Int) ≤ (y : Int) + ((jd : Int) - ((n / 2 : Nat) : Int)) - (((it - 1) / 2 : Nat) : Int) →
    (y : Int) + ((jd : Int) - ((n / 2 : Nat) : Int)) + (it : Int) - 1
              - (((it - 1) / 2 : Nat) : Int) < n →
    (∀ s : Nat, s < n → rd s = a0 + a1 * (s : β) + a2 * (s : β) ^ 2 + a3 * (s : β) ^ 3) →
    applyCell n (smRowOf n it jd xip) rd y
      = a0 + a1 * ((y : β) + ((jd : β) - ((n / 2 : Nat) : β)) + xip)
           + a2 * ((y : β) + ((jd : β) - ((n / 2 : Nat) : β)) + xip) ^ 2
           + a3 * ((y : β) + ((jd : β) - ((n / 2 : Nat) : β)) + xip) ^ 3

theorem poly_repro_grid_full_false : ¬ PolyReproGridFull := by
  intro H
  have h := H ℚ 4 2 3 (Or.inr (Or.inl rfl)) (by norm_num) (by norm_num)
    (1 / 2) 1 0 0 0 (fun _ => rfl) (fun _ => rfl) (fun _ => rfl) (fun _ => 1) 0 (by norm_num)
    (by norm_num) (by norm_num) (by intro s _; simp)
  rw [edge_row_const] at h
  norm_num at h

/-- proved part of `PolyReproGridFull`: additionally the stencil of the row lies in the table -/
theorem poly_repro_grid_partial (n it jd : Nat) (hit : ValidIt it) (hn : n < 2 ^ 31)
    (hjd : jd < n) (hst_lo : (it - 1) / 2 ≤ jd) (hst_hi : jd + (it - 1) - (it - 1) / 2 < n)
    (xip a0 a1 a2 a3 : α)
    (h1 : it ≤ 1 → a1 = 0) (h2 : it ≤ 2 → a2 = 0) (h3 : it ≤ 3 → a3 = 0)
    (rd : Nat → α) (y : Nat) (hy : y < n)
    (hlo : (0 : Int) ≤ (y : Int) + ((jd : Int) - ((n / 2 : Nat) : Int)) - (((it - 1) / 2 : Nat) : Int))
    (hhi : (y : Int) + ((jd : Int) - ((n / 2 : Nat) : Int)) + (it : Int) - 1
              - (((it - 1) / 2 : Nat) : Int) < n)
    (hrd : ∀ s : Nat, s < n →
        rd s = a0 + a1 * (s : α) + a2 * (s : α) ^ 2 + a3 * (s : α) ^ 3) :
    let t : α := (y : α) + ((jd : α) - ((n / 2 : Nat) : α)) + xip
    applyCell n (smRowOf n it jd xip) rd y = a0 + a1 * t + a2 * t ^ 2 + a3 * t ^ 3 := by
  intro t
  rw [applyCell_smRow_stencilIn n it jd hit.le_four hn hjd ⟨hst_lo, hst_hi⟩ xip rd y hy]
  refine Eq.trans ?_ (poly_repro_shift it hit ((y : α) + ((jd : α) - ((n / 2 : Nat) : α))) xip
    a0 a1 a2 a3 h1 h2 h3)
  congr 1
  refine List.map_congr_left fun j hj => ?_
  rw [List.mem_range] at hj
  -- the stencil point is a cell of the grid, where `rd` is the polynomial
  obtain ⟨s, hs⟩ := Int.eq_ofNat_of_zero_le (a := (y : Int) + ((jd : Int) - ((n / 2 : Nat) : Int))
    + (j : Int) - (((it - 1) / 2 : Nat) : Int)) (by omega)
  have hsα : (s : α) = (y : α) + ((jd : α) - ((n / 2 : Nat) : α))
      + ((j : α) - (((it - 1) / 2 : Nat) : α)) := by
    rw [← Int.cast_natCast (R := α), ← hs]
    simp only [Int.cast_add, Int.cast_sub, Int.cast_natCast]
    ring
  rw [hs, rdz, if_pos (by omega), Int.toNat_natCast, hrd s (by omega), hsα]

/-- non-vacuity: the hypotheses of `poly_repro_grid_partial` (including the two added ones)
    are met by the concrete cubic case of the example below -/
example : (4 - 1) / 2 ≤ 9 ∧ 9 + (4 - 1) - (4 - 1) / 2 < 16 := by norm_num

/-- non-vacuity: the hypotheses of `poly_repro_grid` are met by a concrete cubic case -/
example : ValidIt 4 ∧ (16 : Nat) < 2 ^ 31 ∧ (9 : Nat) < 16 ∧
    (0 : Int) ≤ (5 : Int) + ((9 : Int) - ((16 / 2 : Nat) : Int)) - (((4 - 1) / 2 : Nat) : Int) ∧
    (5 : Int) + ((9 : Int) - ((16 / 2 : Nat) : Int)) + (4 : Int) - 1
        - (((4 - 1) / 2 : Nat) : Int) < 16 := by
  refine ⟨Or.inr (Or.inr (Or.inr rfl)), by norm_num, by norm_num, by norm_num, by norm_num⟩

end Inovesa.Props.C02
