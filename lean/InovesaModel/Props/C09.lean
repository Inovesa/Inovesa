/-
  C09 — normalisation restores each bunch's charge share; moments are the true moments;
  a copy carries the same data, projections and integral.
  Statements about Model/PhaseSpace.lean (hand model of src/PS/PhaseSpace.cpp, validated
  bitwise on op sequences) in any field of characteristic 0.
-/
import InovesaModel.Lemmas.PS
namespace Inovesa.Props.C09
open Inovesa

variable {α : Type} [Field α] [CharZero α]

/-- charge of bunch `b` as the code measures it: Simpson integral of the Simpson-weighted
    x-projection of the grid -/
def chargeOf (n : Nat) (ws : Nat → α) (data : Nat → α) (b : Nat) : α :=
  fillingOf n ws (xprojOf n ws data) b

/-- the code's inner products are plain weighted sums -/
theorem innerProd_eq_sum (n : Nat) (f ws : Nat → α) :
    innerProd n f ws = ((List.range n).map fun i => f i * ws i).sum := by
  exact innerProd_eq_finsum n f ws

omit [CharZero α] in
/-- `normalize` multiplies the charge of every bunch by the bunch's own factor, whatever integral it was computed from -/
theorem charge_normalize (n : Nat) (ws data fset fill : Nat → α) (pos : Nat → Bool) (b : Nat) :
    chargeOf n ws (normalizeOf n pos fset fill data) b
      = (if pos b then fset b / fill b else 0) * chargeOf n ws data b := by
  rw [normalizeOf_eq]
  exact charge_scale n ws data (fun b => if pos b then fset b / fill b else 0) b

/-- After `normalize` (computed from a *fresh* integral, i.e. `fill = chargeOf data`), a
    bunch with positive set filling and non-zero measured charge integrates to exactly
    its set share. -/
theorem normalize_exact (n : Nat) (ws : Nat → α) (data : Nat → α) (fset : Nat → α)
    (pos : Nat → Bool) (b : Nat) (hn : 0 < n) (hpos : pos b = true)
    (hfill : chargeOf n ws data b ≠ 0) :
    chargeOf n ws (normalizeOf n pos fset (chargeOf n ws data) data) b = fset b := by
  rw [charge_normalize, if_pos hpos]
  exact div_mul_cancel₀ _ hfill

/-- empty buckets (set filling ≤ 0) integrate to zero afterwards -/
theorem normalize_empty (n : Nat) (ws : Nat → α) (data : Nat → α) (fset fill : Nat → α)
    (pos : Nat → Bool) (b : Nat) (hn : 0 < n) (hpos : pos b = false) :
    chargeOf n ws (normalizeOf n pos fset fill data) b = 0 := by
  rw [charge_normalize, hpos, if_neg Bool.false_ne_true, zero_mul]

/-- the total after normalisation is the sum of the set shares of the occupied buckets
    (which the constructor requires to be one) -/
theorem normalize_total (n nb : Nat) (ws : Nat → α) (data : Nat → α) (fset : Nat → α)
    (pos : Nat → Bool) (hn : 0 < n)
    (hfill : ∀ b, b < nb → pos b = true → chargeOf n ws data b ≠ 0) :
    integralOf nb (chargeOf n ws (normalizeOf n pos fset (chargeOf n ws data) data))
      = ((List.range nb).map fun b => if pos b then fset b else 0).sum := by
  rw [integralOf_eq_finsum]
  refine Finset.sum_congr rfl fun b hb => ?_
  rw [charge_normalize]
  split
  · next hp => exact div_mul_cancel₀ _ (hfill b (Finset.mem_range.mp hb) hp)
  · exact zero_mul _

/-- With a stale integral (`fill ≠ chargeOf data`) the bunch ends at `fset·charge/fill`:
    the statement the code actually guarantees — `normalize` is only exact after a fresh
    `integrate` (relevant for C11: start from a results file). -/
theorem normalize_stale (n : Nat) (ws : Nat → α) (data : Nat → α) (fset fill : Nat → α)
    (pos : Nat → Bool) (b : Nat) (hn : 0 < n) (hpos : pos b = true) (hf : fill b ≠ 0) :
    chargeOf n ws (normalizeOf n pos fset fill data) b
      = fset b * (chargeOf n ws data b / fill b) := by
  rw [charge_normalize, if_pos hpos]
  ring

/-- `average` is the first moment of the bunch's projection over the bunch's own charge:
    `(Σ_i proj_i·q_i·δ) / fill`. -/
theorem average_is_first_moment (n : Nat) (proj qp : Nat → α) (delta fill : α) (hf : fill ≠ 0) :
    averageOf n true proj qp delta fill
      = (((List.range n).map fun i => proj i * qp i * delta).sum) / fill := by
  rw [averageOf, if_pos rfl, foldl_range_zero, sum_map_range, div_eq_mul_inv, div_eq_mul_inv, Finset.sum_mul,
    Finset.sum_mul]
  exact Finset.sum_congr rfl fun i _ => by ring

/-- `variance` is the centred second moment of the bunch's projection over its charge -/
theorem variance_is_second_moment (n : Nat) (proj qp : Nat → α) (mean delta fill : α) (hf : fill ≠ 0) :
    varianceOf n true proj qp mean delta fill
      = (((List.range n).map fun i => proj i * (qp i - mean) ^ 2 * delta).sum) / fill := by
  simp only [varianceOf, if_true, accSq_field]
  rw [foldl_range_zero, sum_map_range, div_eq_mul_inv, div_eq_mul_inv, Finset.sum_mul, Finset.sum_mul]
  exact Finset.sum_congr rfl fun i _ => by ring

/-- empty buckets report zero moments -/
theorem moments_empty (n : Nat) (proj qp : Nat → α) (mean delta fill : α) :
    averageOf n false proj qp delta fill = 0 ∧ varianceOf n false proj qp mean delta fill = 0 := by
  simp [averageOf, varianceOf]

/-- Frame: projections and charge of bunch `b` depend on no other bunch's data. -/
theorem projections_frame (n : Nat) (ws : Nat → α) (data data' : Nat → α) (b : Nat)
    (h : ∀ i, i < n * n → data (b * n * n + i) = data' (b * n * n + i)) :
    (∀ x, x < n → xprojOf n ws data b x = xprojOf n ws data' b x) ∧
    (∀ y, y < n → yprojOf n ws data b y = yprojOf n ws data' b y) ∧
    chargeOf n ws data b = chargeOf n ws data' b := by
  have cell : ∀ x y, x < n → y < n → data (b * n * n + x * n + y) = data' (b * n * n + x * n + y) :=
    fun x y hx hy => by simpa [Nat.add_assoc] using h (x * n + y) (flat_lt hx hy)
  have hx : ∀ x, x < n → xprojOf n ws data b x = xprojOf n ws data' b x :=
    fun x hx => innerProd_congr n _ _ ws fun y hy => cell x y hx hy
  exact ⟨hx, fun y hy => innerProd_congr n _ _ ws fun x hx => cell x y hx hy, innerProd_congr n _ _ ws hx⟩

/-- A state is *fresh* when its cached members are the ones computed from its data. -/
def Fresh (c : PSConst α) (s : PSState α) : Prop :=
  s.proj0 = (psXProj c s).proj0 ∧ s.proj1 = (psYProj c s).proj1 ∧
  s.filling = (psIntegrate c (psXProj c s)).filling ∧
  s.integral = (psIntegrate c (psXProj c s)).integral

omit [CharZero α] in
/-- the tail of every constructor, `updateXProjection; updateYProjection; integrate`, leaves ANY state fresh: each
    call writes its own members only and reads the data (`integrate`: `proj0`) only -/
theorem refresh_fresh (c : PSConst α) (s : PSState α) : Fresh c (psIntegrate c (psYProj c (psXProj c s))) :=
  ⟨rfl, rfl, rfl, rfl⟩

/-- The copy carries the same data and freshly computed projections and integral. -/
theorem copy_data_and_fresh (c : PSConst α) (s : PSState α) :
    (psCopy c s).data = s.data ∧ Fresh c (psCopy c s) :=
  ⟨rfl, refresh_fresh c _⟩

omit [CharZero α] in
/-- the mean `variance(axis)` reports for the first bunch, given the class invariant of the moment array -/
theorem variance_mean_first (sq : α → α) (c : PSConst α) (axis : Nat) (s : PSState α)
    (hm : s.mean.size = 2 * c.nb) :
    (psVariance sq c axis s).mean.getD (axis * c.nb) 0
      = if 0 < c.nb ∧ axis * c.nb < 2 * c.nb then avgVal c axis s 0 else 0 := by
  have e := psVariance_mean_getD sq c axis s 0 0
  rw [Nat.add_zero, hm] at e
  rw [e]
  split
  · rfl
  · rw [Array.getD_eq_getD_getElem?, Array.getElem?_eq_none (by omega)]
    rfl

/-- If the original is fresh, the copy has equal projections, bunch populations and
    integral, and reports equal moments after `variance`.  `hm` is the class invariant of the
    model's moment array (`_moment` has extent `[2][4][nb]` in the C++; the model's `average`
    writes with `setIfInBounds`).  Without it the statement is false of the *model*
    (`copy_same_needs_size`), which says nothing about the C++. -/
theorem copy_same (sq : α → α) (c : PSConst α) (s : PSState α) (hs : Fresh c s)
    (axis : Nat) (hm : s.mean.size = 2 * c.nb) :
    (psCopy c s).proj0 = s.proj0 ∧ (psCopy c s).proj1 = s.proj1 ∧
    (psCopy c s).filling = s.filling ∧ (psCopy c s).integral = s.integral ∧
    (psVariance sq c axis (psCopy c s)).mean.getD (axis * c.nb) 0
        = (psVariance sq c axis s).mean.getD (axis * c.nb) 0 := by
  -- the copy's cached members are by computation those of the update functions on `s`
  obtain ⟨h0, h1, hf, hi⟩ : (psCopy c s).proj0 = s.proj0 ∧ (psCopy c s).proj1 = s.proj1 ∧
      (psCopy c s).filling = s.filling ∧ (psCopy c s).integral = s.integral :=
    ⟨hs.1.symm, hs.2.1.symm, hs.2.2.1.symm, hs.2.2.2.symm⟩
  refine ⟨h0, h1, hf, hi, ?_⟩
  rw [variance_mean_first sq c axis _ Array.size_replicate, variance_mean_first sq c axis s hm]
  unfold avgVal
  rw [h0, h1, hf]

/-- the size invariant in `copy_same` cannot be dropped (model artefact, see above) -/
theorem copy_same_needs_size :
    ¬ ∀ (sq : α → α) (c : PSConst α) (s : PSState α), Fresh c s → ∀ axis : Nat,
      (psCopy c s).proj0 = s.proj0 ∧ (psCopy c s).proj1 = s.proj1 ∧
      (psCopy c s).filling = s.filling ∧ (psCopy c s).integral = s.integral ∧
      (psVariance sq c axis (psCopy c s)).mean.getD (axis * c.nb) 0
          = (psVariance sq c axis s).mean.getD (axis * c.nb) 0 := fun h =>
  -- no bunch, but a moment array that holds one entry: `variance` writes nothing, and the copy starts with none
  zero_ne_one (h id ⟨0, 0, ⟨0, 0, 0⟩, ⟨0, 0, 0⟩, #[], #[]⟩ ⟨#[], #[], #[], #[], zero, #[1], #[], #[]⟩
    ⟨rfl, rfl, rfl, rfl⟩ 0).2.2.2.2

/-- the Gaussian start distribution (constructor called without data): the grid that `createFromProjections` leaves is
    the outer product of the two sampled Gaussians, normalised with the charge MEASURED ON THAT PRODUCT (projection and
    integral are refreshed before `normalize`; the call sequence is the generated one, `TiePS.create_sequence_is_code`) -/
theorem gaussian_start_data (c : PSConst α) (s : PSState α) :
    (psCreateFromProjections c s).data
      = (psNormalize c (psIntegrate c (psXProj c (psOuter c s)))).data := rfl

/-- hence every occupied bucket of the start distribution integrates to exactly its set share, whatever the width of the
    Gaussians (function-level statement: `d` the outer product, its own charge non-zero) -/
theorem gaussian_start_normalised (n : Nat) (ws g0 g1 : Nat → α) (fset : Nat → α) (pos : Nat → Bool) (b : Nat)
    (hn : 0 < n) (hpos : pos b = true)
    (hfill : chargeOf n ws (fun i => g0 (i / n % n) * g1 (i % n)) b ≠ 0) :
    chargeOf n ws (normalizeOf n pos fset (chargeOf n ws (fun i => g0 (i / n % n) * g1 (i % n)))
      (fun i => g0 (i / n % n) * g1 (i % n))) b = fset b :=
  normalize_exact n ws _ fset pos b hn hpos hfill

/-- and the state the constructor returns is fresh: its cached projections, populations and integral are those of the
    normalised grid -/
theorem gaussian_start_fresh (c : PSConst α) (g0 g1 : Nat → α) : Fresh c (psConstructGauss c g0 g1) :=
  refresh_fresh c _

/-- non-vacuity: a one-bunch 3×3 state built by the constructor is fresh -/
example : Fresh (α := ℚ)
    { n := 3, nb := 1, ax0 := ⟨3, -1, 1⟩, ax1 := ⟨3, -1, 1⟩, fset := #[1], pos := #[true] }
    (psConstruct { n := 3, nb := 1, ax0 := ⟨3, -1, 1⟩, ax1 := ⟨3, -1, 1⟩, fset := #[1], pos := #[true] }
      #[0, 0, 0, 0, 1, 0, 0, 0, 0]) := by
  -- the term is elaborated with the executable `Lit ℚ` instance; transport to the field reading
  rw [ratLit_eq_fieldLit]
  exact psConstruct_fresh _ _

end Inovesa.Props.C09
