/-
  Tie theorems (index arithmetic of KickMap::apply and KickMap::updateSM): hand-written model definitions proved EQUAL to definitions regenerated from the C++ source on
  every run (Gen/*.lean).  The hand definitions are what the lemmas and property theorems unfold; the generated ones are
  what the code says now.  A change of the source expression makes the proof fail, and every check that lists this
  module reports its property as no longer shown (and searches for a failing input).  One module per translator
  fragment, so that a fragment that cannot be translated any more only affects the properties that depend on it.
-/
import InovesaModel.Model.KickMap
import InovesaModel.Gen.KickApply
import InovesaModel.Gen.UpdateSM
import InovesaModel.Lemmas.Index
namespace Inovesa.Props.TieKick
open Inovesa

variable {α : Type} [Arith α] [NatCast α]

/-! ### index arithmetic of `KickMap::apply` (square grids: `kd = pd = n`) -/

/-- the source cell addressed through a table entry, both directions (`srcCell` of the model) -/
theorem kick_src_is_code (n x y idx : Nat) :
    srcCell n y idx = Gen.kickYSrc n n x y idx ∧ srcCell n x idx = Gen.kickXSrc n n x y idx := ⟨rfl, rfl⟩

/-- the table row used: y-kick `min b lastbunch * n + x` (historic defect A: the stride `_ip` was applied to
    `x` only), x-kick row `y`; entry `j` of a row of `ip` entries -/
theorem kick_table_index_is_code (b lastbunch n ip x y j : Nat) :
    Gen.kickYTab b lastbunch n n ip x y j = (min b lastbunch * n + x) * ip + j ∧
    Gen.kickXTab b lastbunch n n ip x y j = y * ip + j := ⟨rfl, rfl⟩

/-- a source cell is read only below the line length, from the addresses the model's `applyY`/`applyX` use
    (`data (b*n*n + x*n + s)` resp. `data (b*n*n + s*n + y)`), and the result goes to cell `b*n*n + x*n + y`,
    the position of the model's output list -/
theorem kick_addresses_are_code (b n x y s : Nat) :
    Gen.kickYGuard n n = n ∧ Gen.kickXGuard n n = n ∧
    Gen.kickYRead b n n x y s = b * n * n + x * n + s ∧ Gen.kickXRead b n n x y s = b * n * n + s * n + y ∧
    Gen.kickYWrite b n n x y = b * n * n + x * n + y ∧ Gen.kickXWrite b n n x y = b * n * n + x * n + y :=
  ⟨rfl, rfl, rfl, rfl, rfl, rfl⟩

/-- the loops run over all bunches, all cells and all table entries -/
theorem kick_loops_are_code (nb n ip : Nat) :
    Gen.kickYBounds nb n n ip = [nb, n, n, ip] ∧ Gen.kickXBounds nb n n ip = [nb, n, n, ip] := ⟨rfl, rfl⟩

/-! ### index arithmetic of `KickMap::updateSM` -/

/-- the source position of a row is the INTEGER grid centre `n/2` (the one `apply` subtracts again) plus the
    displacement — the argument of `ModF.modf` in `smRow` -/
theorem updateSM_position_is_code (n : Nat) (off : α) :
    (((n / 2 : Nat) : α) + off) = Gen.updPoffs n off := rfl

/-- stencil index of entry `j1`, for the interpolation orders that exist (unsigned arithmetic of the C++ on
    the left, the model's expression on the right) -/
theorem updateSM_index_is_code (jd j1 it : Nat) (h1 : 1 ≤ it) (h2 : it < 4294967296) :
    Gen.updJ0 jd j1 it = (jd + j1 + W32 - (it - 1) / 2) % W32 := by
  rw [Gen.updJ0, ← show W32 = 4294967296 from rfl, wrap_sub h1 h2]

/-- guards, the row of zeros for positions outside, the index stored with weight 0, and the table slot -/
theorem updateSM_guards_are_code (n i ip j1 : Nat) :
    Gen.updGuard n = n ∧ Gen.updJdOutside n = n ∧ Gen.updFallback n = n / 2 ∧ Gen.updFallbackRow n = n / 2 ∧
    Gen.updSlot i ip j1 = i * ip + j1 := ⟨rfl, rfl, rfl, rfl, rfl⟩


end Inovesa.Props.TieKick
